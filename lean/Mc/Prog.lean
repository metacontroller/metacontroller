import Mc.Json
/-
  A sync is a deterministic program talking to the API server and to webhooks:
  the free monad over requests. One definition, several semantics (replay of a recorded
  trace, run against a model of the API server, fault plans), and syntactic theorems
  that hold on every branch = for every possible response.
-/
namespace Mc

inductive Verb where
  | get | create | update | updateStatus | delete | patchRemove | apply
  deriving Repr, BEq, DecidableEq, Inhabited

def Verb.name : Verb → String
  | .get => "get" | .create => "create" | .update => "update" | .updateStatus => "updateStatus"
  | .delete => "delete" | .patchRemove => "patchRemove" | .apply => "apply"

structure Target where
  group : String
  resource : String
  ns : String
  name : String
  deriving Repr, BEq, DecidableEq, Inhabited

inductive Req where
  /-- API request; `opts`: delete options / patch options -/
  | api (verb : Verb) (t : Target) (body : J) (opts : J)
  /-- webhook call: `sync`, `finalize` or `customize` -/
  | hook (name : String) (req : J)
  deriving Inhabited

inductive Resp where
  /-- API success carrying the object returned -/
  | obj (o : J)
  /-- API failure: reason (NotFound, AlreadyExists, Conflict, Gone, Invalid, ...) -/
  | err (reason : String)
  /-- webhook answered 200 with this JSON body (already decoded) -/
  | hookOk (body : J)
  /-- webhook failed: kind ∈ http | status | decode ; 429 carries the delay in seconds -/
  | hookErr (kind : String)
  | hook429 (after : Int)
  deriving Inhabited

inductive Prog (α : Type) where
  | ret (a : α)
  | call (r : Req) (k : Resp → Prog α)

namespace Prog

def bind {α β : Type} : Prog α → (α → Prog β) → Prog β
  | .ret a, f => f a
  | .call r k, f => .call r (fun x => bind (k x) f)

instance : Monad Prog where
  pure := .ret
  bind := Prog.bind

def request (r : Req) : Prog Resp := .call r .ret

/-- all requests a program can ever issue satisfy `P` (every branch) -/
inductive AllCalls {α : Type} (P : Req → Prop) : Prog α → Prop where
  | ret (a : α) : AllCalls P (.ret a)
  | call (r : Req) (k : Resp → Prog α) : P r → (∀ x, AllCalls P (k x)) → AllCalls P (.call r k)

/-- no request satisfying `Q` is ever issued -/
abbrev NoQ {α : Type} (Q : Req → Prop) (p : Prog α) : Prop := AllCalls (fun r => ¬ Q r) p

theorem AllCalls.bind {α β : Type} {P : Req → Prop} {p : Prog α} {f : α → Prog β}
    (hp : AllCalls P p) (hf : ∀ a, AllCalls P (f a)) : AllCalls P (p.bind f) := by
  induction hp with
  | ret a => exact hf a
  | call r k hr _ ih => exact .call r _ hr (fun x => ih x)

theorem AllCalls.mono {α : Type} {P Q : Req → Prop} {p : Prog α} (h : ∀ r, P r → Q r)
    (hp : AllCalls P p) : AllCalls Q p := by
  induction hp with
  | ret a => exact .ret a
  | call r k hr _ ih => exact .call r k (h r hr) ih

/-- `Guarded G Q p`: on every branch of `p`, a `Q`-request is issued only after some earlier
    (request, response) pair satisfied `G` (after such a pair nothing more is demanded) -/
inductive Guarded {α : Type} (G : Req → Resp → Prop) (Q : Req → Prop) : Prog α → Prop where
  | ret (a : α) : Guarded G Q (.ret a)
  | call (r : Req) (k : Resp → Prog α) : ¬ Q r →
      (∀ x, ¬ G r x → Guarded G Q (k x)) → Guarded G Q (.call r k)

theorem Guarded.of_noQ {α : Type} {G : Req → Resp → Prop} {Q : Req → Prop} {p : Prog α}
    (h : NoQ Q p) : Guarded G Q p := by
  induction h with
  | ret a => exact .ret a
  | call r k hr _ ih => exact .call r k hr (fun x _ => ih x)

theorem Guarded.bind {α β : Type} {G : Req → Resp → Prop} {Q : Req → Prop} {p : Prog α} {f : α → Prog β}
    (hp : Guarded G Q p) (hf : ∀ a, Guarded G Q (f a)) : Guarded G Q (p.bind f) := by
  induction hp with
  | ret a => exact hf a
  | call r k hr _ ih => exact .call r _ hr (fun x hx => ih x hx)

/-- sequential run against a step function (API model or recorded oracle) with state `σ` -/
def run {α σ : Type} (step : σ → Req → Resp × σ) : Prog α → σ → Nat → Option (α × σ × List (Req × Resp))
  | .ret a, s, _ => some (a, s, [])
  | .call _ _, _, 0 => none
  | .call r k, s, fuel + 1 =>
      let (x, s') := step s r
      match run step (k x) s' fuel with
      | some (a, s'', log) => some (a, s'', (r, x) :: log)
      | none => none

theorem run_log_all {α σ : Type} {P : Req → Prop} (step : σ → Req → Resp × σ) (p : Prog α)
    (hp : AllCalls P p) : ∀ (s : σ) (fuel : Nat) a s' log, run step p s fuel = some (a, s', log) →
      ∀ rx ∈ log, P rx.1 := by
  induction hp with
  | ret a =>
    intro s fuel a' s' log h
    cases h
    exact fun _ h => nomatch h
  | call r k hr _ ih =>
    intro s fuel a' s' log h
    cases fuel with
    | zero => cases h
    | succ n =>
      simp only [run] at h
      split at h
      · rename_i heq
        cases h
        exact List.forall_mem_cons.mpr ⟨hr, ih _ _ _ _ _ _ heq⟩
      · cases h

/-- on every branch, no `P`-request is issued after a `Q`-request -/
inductive NoPAfterQ {α : Type} (P Q : Req → Prop) : Prog α → Prop where
  | ret (a : α) : NoPAfterQ P Q (.ret a)
  | call (r : Req) (k : Resp → Prog α) :
      (Q r → ∀ x, NoQ P (k x)) → (∀ x, NoPAfterQ P Q (k x)) → NoPAfterQ P Q (.call r k)

/-- after a (request, response) pair satisfying `G`, no `Q`-request is issued any more -/
inductive HaltsAfter {α : Type} (G : Req → Resp → Prop) (Q : Req → Prop) : Prog α → Prop where
  | ret (a : α) : HaltsAfter G Q (.ret a)
  | call (r : Req) (k : Resp → Prog α) :
      (∀ x, G r x → NoQ Q (k x)) → (∀ x, HaltsAfter G Q (k x)) → HaltsAfter G Q (.call r k)

/-- every result (leaf) of the program satisfies `R`, whatever the responses -/
inductive AllRets {α : Type} (R : α → Prop) : Prog α → Prop where
  | ret (a : α) : R a → AllRets R (.ret a)
  | call (r : Req) (k : Resp → Prog α) : (∀ x, AllRets R (k x)) → AllRets R (.call r k)

/-- number of requests satisfying `Q` on the longest branch is at most `n` -/
inductive AtMost {α : Type} (Q : Req → Prop) : Nat → Prog α → Prop where
  | ret (n : Nat) (a : α) : AtMost Q n (.ret a)
  | callQ (n : Nat) (r : Req) (k : Resp → Prog α) : (∀ x, AtMost Q n (k x)) → AtMost Q (n + 1) (.call r k)
  | callN (n : Nat) (r : Req) (k : Resp → Prog α) : ¬ Q r → (∀ x, AtMost Q n (k x)) → AtMost Q n (.call r k)

end Prog
end Mc
