import Mc.World
import Mc.Proofs.ApiLemmas
import Std.Data.String.ToNat  -- `Nat.repr_injective`: distinct counters give distinct tokens
/-
  The store as a whole: what one request of any client changes (`request_out`, `exec_find_cases`), the token invariant
  `Inv` (resourceVersions and UIDs are issued once; `inv_exec`), and what it protects: an object found after any requests
  by anybody is the one found before or carries a token issued since (`execs_find_cases`), hence `rv_identifies`,
  `uid_identifies`.
-/
namespace Mc
namespace Api

theorem findObj_setObj (t t' : Target) (objs : List (Target × J)) (o : Option J) :
    findObj t' (setObj t o objs) = if t' = t then o else findObj t' objs := by
  induction objs generalizing o with
  | nil => cases o <;> simp [setObj, findObj, eq_comm]
  | cons hd tl ih =>
    by_cases h1 : hd.1 = t
    · subst h1
      by_cases h : t' = hd.1
      · cases o <;> simp [setObj, findObj, ih, if_pos h, if_pos h.symm]
      · cases o <;> simp [setObj, findObj, ih, if_neg h, if_neg (Ne.symm h)]
    · simp only [setObj, findObj, h1, if_false, ih]
      by_cases h : hd.1 = t'
      · simp [h, h ▸ h1]
      · simp [h]

theorem request_out (s : State) (v : Verb) (t : Target) (body opts : J) :
    (s.request v t body opts).1 = match s.defOf t with
      | none => fail 404 "NotFound" (s.find t)
      | some d => handle d v t (s.find t) body opts (findApplied (managerOf opts, t) s.applied) s.fresh := by
  unfold State.request
  cases s.defOf t <;> rfl

theorem request_ok {s : State} {v : Verb} {t : Target} {body opts : J} (h : (s.request v t body opts).1.ok = true) :
    ∃ d, (s.request v t body opts).1 = handle d v t (s.find t) body opts (findApplied (managerOf opts, t) s.applied) s.fresh := by
  rw [request_out] at h ⊢
  revert h
  cases s.defOf t with
  | none =>
    intro h
    rw [fail_not_ok _ _ _ (by decide)] at h
    cases h
  | some d => exact fun _ => ⟨d, rfl⟩

theorem request_delete_ok (s : State) (t : Target) (body opts : J) (u : String) (hu : precondition opts "uid" = some u)
    (h : (s.request .delete t body opts).1.ok = true) : ∃ c, s.find t = some c ∧ mstr c "uid" = u := by
  obtain ⟨d, e⟩ := request_ok h
  rw [e] at h
  exact delete_ok _ opts _ u hu h

theorem request_find (s : State) (v : Verb) (t : Target) (body opts : J) (t' : Target) :
    (s.request v t body opts).2.find t' = if t' = t then (s.request v t body opts).1.post else s.find t' := by
  unfold State.request
  cases hd : s.defOf t with
  | none =>
    simp only [State.find]
    by_cases h : t' = t
    · subst h; simp [fail]
    · simp [h]
  | some d =>
    simp only [State.find]
    exact findObj_setObj _ _ _ _

theorem request_rv (s : State) (v : Verb) (t : Target) (body opts : J) :
    (s.request v t body opts).2.rv = s.rv + 1 := by
  unfold State.request
  cases s.defOf t <;> simp

theorem request_uid (s : State) (v : Verb) (t : Target) (body opts : J) :
    (s.request v t body opts).2.uid = s.uid + 1 := by
  unfold State.request
  cases s.defOf t <;> simp

theorem request_defOf (s : State) (v : Verb) (t : Target) (body opts : J) (t' : Target) :
    (s.request v t body opts).2.defOf t' = s.defOf t' := by
  unfold State.request State.defOf
  cases s.defs.find? _ <;> rfl

theorem request_shape (s : State) (v : Verb) (t : Target) (body opts : J) :
    PostShape (s.find t) s.fresh (s.request v t body opts).1.post := by
  rw [request_out]
  cases s.defOf t with
  | none => exact .inl rfl
  | some d => exact handle_shape ..

theorem rvTok_inj {m n : Nat} (h : rvTok m = rvTok n) : m = n := Nat.repr_injective h

theorem uidTok_inj {m n : Nat} (h : uidTok m = uidTok n) : m = n := by
  unfold uidTok at h
  exact Nat.repr_injective ((String.append_right_inj _).mp h)

theorem rvTok_ne_empty (n : Nat) : rvTok n ≠ "" := Nat.repr_ne_empty

theorem uidTok_ne_empty (n : Nat) : uidTok n ≠ "" :=
  fun h => Nat.repr_ne_empty (String.append_eq_empty_iff.mp h).2

theorem timeTok_ne_empty (n : Nat) : timeTok n ≠ "" :=
  fun h => Nat.repr_ne_empty (String.append_eq_empty_iff.mp h).2

/-- every stored object carries a resourceVersion / UID the server has issued -/
def Bounded (s : State) : Prop :=
  ∀ t o, s.find t = some o → (∃ n, n ≤ s.rv ∧ mstr o "resourceVersion" = rvTok n) ∧ (∃ n, n ≤ s.uid ∧ mstr o "uid" = uidTok n)

/-- no two stored objects share a resourceVersion or a UID -/
def Unique (s : State) : Prop :=
  ∀ t t' o o', s.find t = some o → s.find t' = some o' →
    (mstr o "resourceVersion" = mstr o' "resourceVersion" → t = t') ∧ (mstr o "uid" = mstr o' "uid" → t = t')

def Inv (s : State) : Prop := Bounded s ∧ Unique s

theorem inv_empty (defs : List ResDef) : Inv (emptyState defs) := by
  constructor
  · intro t o h; simp [emptyState, State.find, findObj] at h
  · intro t t' o o' h; simp [emptyState, State.find, findObj] at h

theorem exec_find (s : State) (r : ApiReq) (t' : Target) :
    (s.exec r).find t' = if t' = r.t then (s.request r.v r.t r.body r.opts).1.post else s.find t' :=
  request_find s r.v r.t r.body r.opts t'

theorem exec_rv (s : State) (r : ApiReq) : (s.exec r).rv = s.rv + 1 := request_rv ..
theorem exec_uid (s : State) (r : ApiReq) : (s.exec r).uid = s.uid + 1 := request_uid ..

/-- `execs_find_cases` for one request; what is new sits at the request's target -/
theorem exec_find_cases (s : State) (r : ApiReq) (t : Target) (c : J) (h : (s.exec r).find t = some c) :
    (s.find t = some c ∨ t = r.t ∧ mstr c "resourceVersion" = rvTok (s.rv + 1)) ∧
    ((∃ c0, s.find t = some c0 ∧ mstr c "uid" = mstr c0 "uid") ∨ t = r.t ∧ mstr c "uid" = uidTok (s.uid + 1)) := by
  rw [exec_find] at h
  split at h
  · rename_i ht
    subst ht
    rcases request_shape s r.v r.t r.body r.opts with hs | hs | ⟨o, hs, hrv, hu⟩ <;> rw [hs] at h
    · exact ⟨.inl h, .inl ⟨c, h, rfl⟩⟩
    · cases h
    · cases h
      refine ⟨.inr ⟨rfl, hrv⟩, ?_⟩
      cases hc : s.find r.t with
      | none => exact .inr ⟨rfl, by rw [hu, hc]; rfl⟩
      | some c0 => exact .inl ⟨c0, rfl, by rw [hu, hc]; rfl⟩
  · exact ⟨.inl h, .inl ⟨c, h, rfl⟩⟩

theorem execs_nil (s : State) : s.execs [] = s := rfl
theorem execs_cons (s : State) (r : ApiReq) (rs : List ApiReq) : s.execs (r :: rs) = (s.exec r).execs rs := rfl
theorem execs_append (s : State) (a b : List ApiReq) : s.execs (a ++ b) = (s.execs a).execs b := by
  simp [State.execs, List.foldl_append]

theorem execs_uid (rs : List ApiReq) : ∀ s : State, (s.execs rs).uid = s.uid + rs.length := by
  induction rs with
  | nil => intro s; rfl
  | cons r rs ih => intro s; rw [execs_cons, ih, exec_uid, List.length_cons]; omega

theorem execs_find_cases (rs : List ApiReq) : ∀ (s : State) (t : Target) (c : J), (s.execs rs).find t = some c →
    (s.find t = some c ∨ ∃ n, s.rv < n ∧ mstr c "resourceVersion" = rvTok n) ∧
    ((∃ c0, s.find t = some c0 ∧ mstr c "uid" = mstr c0 "uid") ∨ ∃ m, s.uid < m ∧ mstr c "uid" = uidTok m) := by
  induction rs with
  | nil => intro s t c h; exact ⟨.inl h, .inl ⟨c, h, rfl⟩⟩
  | cons r rs ih =>
    intro s t c h
    obtain ⟨hrv, huid⟩ := ih (s.exec r) t c h
    rw [exec_rv] at hrv
    rw [exec_uid] at huid
    constructor
    · rcases hrv with h1 | ⟨n, hn, e⟩
      · exact (exec_find_cases s r t c h1).1.imp id (fun e => ⟨_, Nat.lt_succ_self _, e.2⟩)
      · exact .inr ⟨n, by omega, e⟩
    · rcases huid with ⟨c1, h1, e⟩ | ⟨m, hm, e⟩
      · exact (exec_find_cases s r t c1 h1).2.imp (fun ⟨c0, h0, e0⟩ => ⟨c0, h0, e.trans e0⟩) (fun e1 => ⟨_, Nat.lt_succ_self _, e.trans e1.2⟩)
      · exact .inr ⟨m, by omega, e⟩

/-- stale-version protection: once `o` has been stored under `t`, an object with its resourceVersion found
    later - after any requests by anybody - is `o` itself, under `t` -/
theorem rv_identifies (s : State) (h : Inv s) (t : Target) (o : J) (ho : s.find t = some o) (env : List ApiReq)
    (t' : Target) (c : J) (hc : (s.execs env).find t' = some c)
    (e : mstr c "resourceVersion" = mstr o "resourceVersion") : t' = t ∧ c = o := by
  rcases (execs_find_cases env s t' c hc).1 with h0 | ⟨n, hn, en⟩
  · have ht := (h.2 t' t c o h0 ho).1 e
    subst ht
    exact ⟨rfl, Option.some.inj (h0.symm.trans ho)⟩
  · obtain ⟨⟨m, hm, em⟩, _⟩ := h.1 t o ho
    have := rvTok_inj (en.symm.trans (e.trans em))
    omega

/-- an object with the UID of `o` (seen under `t`) is, whenever it is found later, under `t` -/
theorem uid_identifies (s : State) (h : Inv s) (t : Target) (o : J) (ho : s.find t = some o) (env : List ApiReq)
    (t' : Target) (c : J) (hc : (s.execs env).find t' = some c) (e : mstr c "uid" = mstr o "uid") : t' = t := by
  rcases (execs_find_cases env s t' c hc).2 with ⟨c0, h0, e0⟩ | ⟨n, hn, en⟩
  · exact (h.2 t' t c0 o h0 ho).2 (e0.symm.trans e)
  · obtain ⟨_, ⟨m, hm, em⟩⟩ := h.1 t o ho
    have := uidTok_inj (en.symm.trans (e.trans em))
    omega

theorem inv_exec (s : State) (r : ApiReq) (h : Inv s) : Inv (s.exec r) := by
  constructor
  · intro t o ho
    rw [exec_rv, exec_uid]
    obtain ⟨hrv, huid⟩ := exec_find_cases s r t o ho
    constructor
    · rcases hrv with h0 | ⟨_, e⟩
      · obtain ⟨⟨n, hn, e⟩, _⟩ := h.1 t o h0
        exact ⟨n, by omega, e⟩
      · exact ⟨s.rv + 1, by omega, e⟩
    · rcases huid with ⟨c0, h0, e⟩ | ⟨_, e⟩
      · obtain ⟨_, m, hm, e'⟩ := h.1 t c0 h0
        exact ⟨m, by omega, e.trans e'⟩
      · exact ⟨s.uid + 1, by omega, e⟩
  -- two objects with one token: if either was there before, `rv_identifies` / `uid_identifies`; else both sit at the request's target
  · intro t t' o o' ho ho'
    obtain ⟨hrv, huid⟩ := exec_find_cases s r t o ho
    obtain ⟨hrv', huid'⟩ := exec_find_cases s r t' o' ho'
    constructor
    · intro e
      rcases hrv with h0 | ⟨ht, _⟩
      · exact (rv_identifies s h t o h0 [r] t' o' ho' e.symm).1.symm
      rcases hrv' with h0' | ⟨ht', _⟩
      · exact (rv_identifies s h t' o' h0' [r] t o ho e).1
      · exact ht.trans ht'.symm
    · intro e
      rcases huid with ⟨c0, h0, e1⟩ | ⟨ht, _⟩
      · exact (uid_identifies s h t c0 h0 [r] t' o' ho' (e.symm.trans e1)).symm
      rcases huid' with ⟨c0', h0', e1'⟩ | ⟨ht', _⟩
      · exact uid_identifies s h t' c0' h0' [r] t o ho (e.trans e1')
      · exact ht.trans ht'.symm

theorem inv_execs (rs : List ApiReq) : ∀ s : State, Inv s → Inv (s.execs rs) := by
  induction rs with
  | nil => intro s h; exact h
  | cons r rs ih => intro s h; exact ih _ (inv_exec s r h)

/-- every state the server can reach from an empty store satisfies the invariant -/
theorem inv_reachable (defs : List ResDef) (rs : List ApiReq) : Inv ((emptyState defs).execs rs) :=
  inv_execs rs _ (inv_empty defs)

theorem Evolves.refl (s : State) : Evolves s s := ⟨[], rfl⟩
theorem Evolves.trans {a b c : State} (h1 : Evolves a b) (h2 : Evolves b c) : Evolves a c := by
  obtain ⟨r1, rfl⟩ := h1
  obtain ⟨r2, rfl⟩ := h2
  exact ⟨r1 ++ r2, (execs_append _ _ _).symm⟩
theorem Evolves.step (s : State) (r : ApiReq) : Evolves s (s.exec r) := ⟨[r], rfl⟩
theorem Evolves.inv {s s' : State} (h : Evolves s s') (hi : Inv s) : Inv s' := by
  obtain ⟨rs, rfl⟩ := h; exact inv_execs rs s hi

theorem Exec.head {hook : String → J → Resp} {α : Type} {p : Prog α} {s : State} {e : State × Req × Resp}
    {l : List (State × Req × Resp)} {a : α} {s' : State} (h : Exec hook p s (e :: l) a s') : Evolves s e.1 := by
  cases h with
  | call _ _ _ env _ _ _ _ => exact ⟨env, rfl⟩

theorem uid_mono (rs : List ApiReq) : ∀ s : State, s.uid ≤ (s.execs rs).uid := by
  intro s
  rw [execs_uid]
  omega

end Api
end Mc
