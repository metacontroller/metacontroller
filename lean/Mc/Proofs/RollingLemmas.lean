import Mc.Sync.Rolling
/-
  The rolling-update model (`Mc/Sync/Rolling.lean`): the head of a moved revision list, the steps of `immediateMoves`
  (`immediateMoves_induction`), what `addChild` does to the claims a revision holds (`heldClaims`, `addChild_held`), and
  `setCondition` as a function of the old `conditions` value (`setCondition_eq`, `upsertCond`).
-/
namespace Mc

theorem headD_mapIdx (prs : List PRev) (hne : prs ≠ []) (F : Nat → PRev → PRev) :
    (prs.mapIdx F).headD default = F 0 (prs.headD default) := by
  cases prs with
  | nil => exact absurd rfl hne
  | cons p rest => simp [List.mapIdx_cons]

/-- the latest revision after a move -/
theorem headD_mapIdx_move (prs : List PRev) (f g : PRev → PRev) (hd : f default = default) :
    (prs.mapIdx (fun i p => if i == 0 then f p else g p)).headD default = f (prs.headD default) := by
  cases prs with
  | nil => simp [hd]
  | cons p rest => simp [List.mapIdx_cons]

/-- invariants of `immediateMoves`: every step leaves the revisions and the claim map alone, or moves one child of a rolling
    kind to revision 0 (`addChild` there, the claim map set to 0); when a step is skipped is not said, so this gives what the
    steps preserve, not what they achieve -/
theorem immediateMoves_induction (c : Cfg) (obs : ObjMap) {I : List PRev → Claims → Prop} (flat : List (GVK × String × J))
    (step : ∀ e ∈ flat, c.isRolling e.1.group e.1.kind = true → ∀ (prs : List PRev) (cl : Claims) (F : Nat → PRev → PRev),
      (∀ p, (F 0 p).children = addChild p.children e.1.group e.1.kind e.2.1) → I prs cl →
      I (prs.mapIdx F) (cl.set e.1.group e.1.kind e.2.1 0)) :
    ∀ (prs : List PRev) (cl : Claims), I prs cl →
      I (immediateMoves c obs flat prs cl).1 (immediateMoves c obs flat prs cl).2 := by
  induction flat with
  | nil => exact fun _ _ h => h
  | cons e rest ih =>
    intro prs cl h
    obtain ⟨gvk, name, des⟩ := e
    have ih := ih fun e he => step e (List.mem_cons_of_mem _ he)
    have moved := fun hr F hF => ih _ _ (step (gvk, name, des) List.mem_cons_self hr prs cl F hF h)
    rw [immediateMoves]
    cases hr : c.isRolling gvk.group gvk.kind with
    | false => exact ih prs cl h
    | true =>
      simp only [Bool.not_true, Bool.false_eq_true, if_false]
      split
      · exact moved hr _ (fun p => by simp)
      · exact ih prs cl h
      · split
        · exact ih prs cl h
        · split
          · exact ih prs cl h
          · split
            · exact moved hr _ (fun p => by simp)
            · exact ih prs cl h

def claimNames (gs : List CGroup) : List String := gs.flatMap (·.names)

/-- the claims held by a list of groups, as `(apiGroup, kind, name)`, in order -/
def heldClaims (gs : List CGroup) : List (String × String × String) :=
  gs.flatMap (fun g => g.names.map (fun n => (g.apiGroup, g.kind, n)))

theorem claimNames_eq (gs : List CGroup) : claimNames gs = (heldClaims gs).map (·.2.2) := by
  simp [claimNames, heldClaims, List.map_flatMap, Function.comp_def]

theorem addChild_go_held (a k n : String) (gs : List CGroup)
    (h : gs.any (fun x => x.apiGroup == a && x.kind == k) = true) :
    ∃ as bs, heldClaims gs = as ++ bs ∧
      (heldClaims (addChild.go a k n gs) = as ++ (a, k, n) :: bs ∨
       heldClaims (addChild.go a k n gs) = heldClaims gs ∧ (a, k, n) ∈ heldClaims gs) := by
  induction gs with
  | nil => simp at h
  | cons x rest ih =>
    rw [addChild.go]
    split
    · rename_i hx
      rw [Bool.and_eq_true, beq_iff_eq, beq_iff_eq] at hx
      refine ⟨x.names.map (fun n => (a, k, n)), heldClaims rest, by simp [heldClaims, hx], ?_⟩
      split
      · rename_i hc
        exact .inr ⟨rfl, by simpa [heldClaims, hx] using .inl (List.contains_iff_mem.mp hc)⟩
      · exact .inl (by simp [heldClaims, hx])
    · rename_i hx
      rw [List.any_cons, Bool.or_eq_true] at h
      obtain ⟨as, bs, h1, h2⟩ := ih (h.resolve_left hx)
      refine ⟨x.names.map (fun n => (x.apiGroup, x.kind, n)) ++ as, bs, by simp [heldClaims, ← h1], ?_⟩
      rcases h2 with h2 | ⟨h2, h3⟩
      · exact .inl (by simpa [heldClaims] using h2)
      · exact .inr ⟨by simpa [heldClaims] using h2, by simp only [heldClaims, List.flatMap_cons, List.mem_append]; exact .inr h3⟩

theorem addChild_held (gs : List CGroup) (a k n : String) :
    ∃ as bs, heldClaims gs = as ++ bs ∧
      (heldClaims (addChild gs a k n) = as ++ (a, k, n) :: bs ∨
       heldClaims (addChild gs a k n) = heldClaims gs ∧ (a, k, n) ∈ heldClaims gs) := by
  unfold addChild
  split
  · exact addChild_go_held a k n gs ‹_›
  · exact ⟨heldClaims gs, [], by simp, .inl (by simp [heldClaims])⟩

theorem mem_heldClaims_addChild {gs : List CGroup} {a k n : String} {t : String × String × String} :
    t ∈ heldClaims (addChild gs a k n) ↔ t ∈ heldClaims gs ∨ t = (a, k, n) := by
  obtain ⟨as, bs, h1, h2 | ⟨h2, h3⟩⟩ := addChild_held gs a k n
  · rw [h1, h2]; simp [or_assoc, or_comm]
  · rw [h2]; exact ⟨.inl, fun h => h.elim id (· ▸ h3)⟩

theorem addChild_names (gs : List CGroup) (g k n : String) :
    claimNames (addChild gs g k n) = claimNames gs ∨
    ∃ as bs, claimNames gs = as ++ bs ∧ claimNames (addChild gs g k n) = as ++ n :: bs := by
  rw [claimNames_eq, claimNames_eq]
  obtain ⟨as, bs, h1, h2 | ⟨h2, _⟩⟩ := addChild_held gs g k n
  · exact .inr ⟨as.map (·.2.2), bs.map (·.2.2), by simp [h1], by simp [h2]⟩
  · exact .inl (by rw [h2])

theorem setCondition_go_cons (cond : J) (ty : Option J) (x : J) (rest : List J) :
    setCondition.go cond ty (x :: rest) =
      if (x.isObj && x.get? "type" == ty) = true then cond :: rest else x :: setCondition.go cond ty rest := rfl

theorem setCondition_go_split (cond : J) (ty : Option J) {x : J} : ∀ {xs : List J},
    x ∈ xs → (x.isObj && x.get? "type" == ty) = true →
    ∃ as y bs, xs = as ++ y :: bs ∧ (y.isObj && y.get? "type" == ty) = true ∧
      setCondition.go cond ty xs = as ++ cond :: bs := by
  intro xs
  induction xs with
  | nil => intro h; cases h
  | cons z rest ih =>
    intro hm hp
    rw [setCondition_go_cons]
    by_cases hz : (z.isObj && z.get? "type" == ty) = true
    · exact ⟨[], z, rest, rfl, hz, if_pos hz⟩
    · obtain ⟨as, y, bs, rfl, hy, hgo⟩ := ih ((List.mem_cons.mp hm).resolve_left fun e => hz (e ▸ hp)) hp
      exact ⟨z :: as, y, bs, rfl, hy, by rw [if_neg hz, hgo]; rfl⟩

/-- the `conditions` list `SetCondition` leaves: the first condition of the same (string) type is replaced, else
    `cond` is appended -/
def upsertCond (cond : J) (xs : List J) : List J :=
  if xs.any (fun x => x.isObj && x.get? "type" == cond.get? "type" && ((cond.get? "type").bind J.str?).isSome) then
    setCondition.go cond (cond.get? "type") xs
  else xs ++ [cond]

theorem setCondition_eq (status : KVs) (cond : J) :
    setCondition status cond =
      match lookup "conditions" status with
      | none => .ok (setKey "conditions" (.arr (upsertCond cond [])) status)
      | some (.arr xs) => .ok (setKey "conditions" (.arr (upsertCond cond xs)) status)
      | some _ => .error "status.conditions is not a list" := by
  unfold setCondition upsertCond
  cases lookup "conditions" status with
  | none => rfl
  | some v =>
    cases v with
    | arr xs =>
      simp only []
      split <;> rfl
    | _ => rfl

theorem setCondition_ok {status : KVs} {cond : J} {st' : KVs} (h : setCondition status cond = .ok st') :
    ∃ xs, (lookup "conditions" status = none ∧ xs = [] ∨ lookup "conditions" status = some (.arr xs)) ∧
      st' = setKey "conditions" (.arr (upsertCond cond xs)) status := by
  rw [setCondition_eq] at h
  split at h
  · exact ⟨[], .inl ⟨‹_›, rfl⟩, (Except.ok.inj h).symm⟩
  · exact ⟨_, .inr ‹_›, (Except.ok.inj h).symm⟩
  · cases h

theorem mem_upsertCond (cond : J) (xs : List J) : cond ∈ upsertCond cond xs := by
  unfold upsertCond
  split
  · rename_i ha
    obtain ⟨x, hx, hp⟩ := List.any_eq_true.mp ha
    rw [Bool.and_eq_true] at hp
    obtain ⟨as, _, bs, _, _, h⟩ := setCondition_go_split cond _ hx hp.1
    rw [h]
    exact List.mem_append_right _ List.mem_cons_self
  · exact List.mem_append_right _ List.mem_cons_self

end Mc
