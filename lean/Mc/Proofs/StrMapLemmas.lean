import Mc.Sync.Decorator
import Mc.Proofs.JsonLemmas
/-
  `updateStringMap` (decorator: the label / annotation edits a hook asks for), one edit at a time: the flag aside, the first
  edit is a point update of the map, from which the rest of the list goes on (`updateStringMap_cons_fst`).
-/
namespace Mc

theorem updateStringMap_nil (dest : KVs) : updateStringMap dest [] = (dest, false) := rfl

theorem updateStringMap_none_has (dest : KVs) (k : String) (rest : List (String × Option String))
    (h : hasKey k dest = true) :
    updateStringMap dest ((k, none) :: rest) = ((updateStringMap (eraseKey k dest) rest).1, true) := by
  simp [updateStringMap, h]

theorem updateStringMap_none_absent (dest : KVs) (k : String) (rest : List (String × Option String))
    (h : hasKey k dest = false) :
    updateStringMap dest ((k, none) :: rest) = updateStringMap dest rest := by
  simp [updateStringMap, h]

theorem updateStringMap_some_same (dest : KVs) (k v : String) (rest : List (String × Option String))
    (h : lookup k dest = some (.str v)) :
    updateStringMap dest ((k, some v) :: rest) = updateStringMap dest rest := by
  simp [updateStringMap, h]

theorem updateStringMap_some_diff (dest : KVs) (k v : String) (rest : List (String × Option String))
    (h : lookup k dest ≠ some (.str v)) :
    updateStringMap dest ((k, some v) :: rest) = ((updateStringMap (setKey k (.str v) dest) rest).1, true) := by
  simp only [updateStringMap]
  split
  · rename_i old heq
    have : ¬ old = v := by intro e; subst e; exact h heq
    simp [this]
  · rfl

def updKeys (u : List (String × Option String)) : List String := u.map (·.1)

theorem updateStringMap_cons_fst (dest : KVs) (a : String) (x : Option String) (rest : List (String × Option String)) :
    ∃ d', (updateStringMap dest ((a, x) :: rest)).1 = (updateStringMap d' rest).1 ∧
      (∀ k, lookup k d' = if k = a then x.map .str else lookup k dest) ∧ (uniq dest → uniq d') := by
  cases x with
  | none =>
    cases hh : hasKey a dest with
    | true =>
      rw [updateStringMap_none_has _ _ _ hh]
      exact ⟨_, rfl, fun k => lookup_eraseKey a k dest, uniq_eraseKey a dest⟩
    | false =>
      rw [updateStringMap_none_absent _ _ _ hh]
      refine ⟨dest, rfl, fun k => ?_, id⟩
      split
      · rename_i hk
        rw [hk]
        exact (hasKey_false_iff _ _).1 hh
      · rfl
  | some v =>
    by_cases hl : lookup a dest = some (.str v)
    · rw [updateStringMap_some_same _ _ _ _ hl]
      refine ⟨dest, rfl, fun k => ?_, id⟩
      split
      · rename_i hk
        rw [hk]
        exact hl
      · rfl
    · rw [updateStringMap_some_diff _ _ _ _ hl]
      exact ⟨_, rfl, fun k => lookup_setKey a k (.str v) dest, uniq_setKey a _ dest⟩

theorem lookup_updateStringMap_other (k : String) : ∀ (updates : List (String × Option String)) (dest : KVs),
    k ∉ updKeys updates → lookup k (updateStringMap dest updates).1 = lookup k dest := by
  intro updates
  induction updates with
  | nil => intro dest _; rfl
  | cons hd tl ih =>
    obtain ⟨a, x⟩ := hd
    intro dest h
    simp only [updKeys, List.map_cons, List.mem_cons, not_or] at h
    obtain ⟨d', e, hl, _⟩ := updateStringMap_cons_fst dest a x tl
    rw [e, ih _ h.2, hl, if_neg h.1]

end Mc
