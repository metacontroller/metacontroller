import Mc.Proofs.MergeLemmas
/-
  Fixpoints of the 3-way merge do not depend on what the desired object does not mention: if `x` is a fixpoint for
  `d` (as last-applied and desired), and `y` differs from `x` only in top-level fields and metadata fields that `d`
  does not have, then `y` is a fixpoint too.  This carries the idempotence law of C05 over the writes that
  `ApplyUpdate` and the API server make after the merge (system metadata, status, the last-applied record,
  generation, resourceVersion).
-/
namespace Mc

theorem fix_obj_iff (mks : List String) (ds xs : KVs) (hu : uniq ds) :
    Fix mks (.obj ds) (.obj xs) ↔ ∀ k v, (k, v) ∈ ds → ∃ m, lookup k xs = some m ∧ Fix mks v m := by
  refine ⟨fun h k v hm => ?_, fix_obj_of (d := .obj ds) rfl hu⟩
  simp only [Fix, merge_obj, J.isObj, Bool.true_or, if_true, J.fields, lastObj] at h
  obtain ⟨m, hlk, hmm⟩ := (obj_spec hu h).1 k v hm
  refine ⟨m, hlk, ?_⟩
  rwa [hlk, lookup_of_mem_uniq ds k v hu hm] at hmm

/-- `y` is `x` edited outside what `d` (top level `ds`, metadata `dm`) mentions -/
def EditOutside (ds dm : KVs) (x y : J) : Prop :=
  ∃ xs ys mx my, x = .obj xs ∧ y = .obj ys ∧ lookup "metadata" xs = some (.obj mx) ∧ lookup "metadata" ys = some (.obj my) ∧
    (∀ k, k ≠ "metadata" → hasKey k ds = true → lookup k ys = lookup k xs) ∧
    (∀ f, hasKey f dm = true → lookup f my = lookup f mx)

theorem EditOutside.refl (ds dm xs mx : KVs) (h : lookup "metadata" xs = some (.obj mx)) : EditOutside ds dm (.obj xs) (.obj xs) :=
  ⟨xs, xs, mx, mx, rfl, rfl, h, h, fun _ _ _ => rfl, fun _ _ => rfl⟩

theorem EditOutside.trans {ds dm : KVs} {x y z : J} (h1 : EditOutside ds dm x y) (h2 : EditOutside ds dm y z) : EditOutside ds dm x z := by
  obtain ⟨xs, ys, mx, my, hx, hy, hmx, hmy, ha, hb⟩ := h1
  obtain ⟨ys', zs, my', mz, hy', hz, hmy', hmz, ha', hb'⟩ := h2
  rw [hy] at hy'; cases hy'
  rw [hmy] at hmy'; cases hmy'
  exact ⟨xs, zs, mx, mz, hx, hz, hmx, hmz, fun k hk hh => (ha' k hk hh).trans (ha k hk hh), fun f hf => (hb' f hf).trans (hb f hf)⟩

theorem editOutside_setMeta (ds dm xs mx my : KVs) (hmx : lookup "metadata" xs = some (.obj mx))
    (hm : ∀ f, hasKey f dm = true → lookup f my = lookup f mx) :
    EditOutside ds dm (.obj xs) (.obj (setKey "metadata" (.obj my) xs)) :=
  ⟨xs, _, mx, my, rfl, rfl, hmx, lookup_setKey_same .., fun _ hk _ => lookup_setKey_other _ _ _ _ hk, hm⟩

theorem fix_of_editOutside (mks : List String) (ds dm : KVs) (hu : uniq ds) (hudm : uniq dm)
    (hmeta : lookup "metadata" ds = some (.obj dm)) (x y : J)
    (hfix : Fix mks (.obj ds) x) (he : EditOutside ds dm x y) : Fix mks (.obj ds) y := by
  obtain ⟨xs, ys, mx, my, hx, hy, hmx, hmy, ha, hb⟩ := he
  subst hx hy
  rw [fix_obj_iff mks ds xs hu] at hfix
  rw [fix_obj_iff mks ds ys hu]
  intro k v hm
  obtain ⟨m, hlk, hf⟩ := hfix k v hm
  by_cases hk : k = "metadata"
  · subst hk
    have hv : v = .obj dm := by
      have := lookup_of_mem_uniq ds "metadata" v hu hm
      rw [hmeta] at this; cases this; rfl
    subst hv
    rw [hmx] at hlk; cases hlk
    refine ⟨.obj my, hmy, ?_⟩
    rw [fix_obj_iff mks dm mx hudm] at hf
    rw [fix_obj_iff mks dm my hudm]
    intro f v' hm'
    obtain ⟨a, hla, hfa⟩ := hf f v' hm'
    exact ⟨a, (hb f (hasKey_of_mem hm')).trans hla, hfa⟩
  · exact ⟨m, (ha k hk (hasKey_of_mem hm)).trans hlk, hf⟩

end Mc
