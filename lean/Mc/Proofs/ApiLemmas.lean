import Mc.Api
import Mc.Proofs.ObjLemmas
/-
  Facts about the API-server model (Mc/Api.lean), per request:
  * what the metadata edits of the verbs do to a field read by `mstr` / `lookup`, and what `created` stores
    (`metaOf_created`; well-formed when the body is),
  * which resourceVersion / UID the object left behind carries (`PostShape`, `handle_shape`),
  * what an accepted update / delete / create tells about the object that was there (`write_ok`, `delete_ok`, `create_ok`),
  and the bridge between `mstr` and the accessors of the sync model (`strAt`, `nestedField`).
-/
namespace Mc
namespace Api

@[simp] theorem metaOf_withMeta (o : J) (m : KVs) : metaOf (withMeta o m) = m := by
  simp [metaOf, withMeta, J.fields, lookup_setKey_same]

theorem lookup_top_withMeta (o : J) (m : KVs) (k : String) (hk : k ≠ "metadata") : lookup k (withMeta o m).fields = lookup k o.fields :=
  lookup_setKey_other _ _ _ _ hk

theorem lookup_top_setMeta (o : J) (k' : String) (v : J) (k : String) (hk : k ≠ "metadata") : lookup k (setMeta o k' v).fields = lookup k o.fields :=
  lookup_top_withMeta o _ k hk

theorem lookup_meta_setMeta (o : J) (k' : String) (v : J) (k : String) (hk : k ≠ k') : lookup k (metaOf (setMeta o k' v)) = lookup k (metaOf o) := by
  unfold setMeta; rw [metaOf_withMeta, lookup_setKey_other _ _ _ _ hk]

@[simp] theorem strOpt_str (s : String) : strOpt (some (.str s)) = s := rfl

theorem mstr_withMeta (o : J) (m : KVs) (k : String) :
    mstr (withMeta o m) k = strOpt (lookup k m) := by
  simp [mstr]

theorem mstr_setMeta_same (o : J) (k : String) (s : String) : mstr (setMeta o k (.str s)) k = s := by
  simp [mstr, setMeta, lookup_setKey_same]

theorem mstr_setMeta_other (o : J) (k k2 : String) (v : J) (h : k2 ≠ k) : mstr (setMeta o k v) k2 = mstr o k2 :=
  congrArg strOpt (lookup_meta_setMeta o k v k2 h)

theorem mstr_of_metaOf_eq {a b : J} (h : metaOf a = metaOf b) (k : String) : mstr a k = mstr b k := by
  unfold mstr; rw [h]

theorem metaOf_setKey_other (k : String) (v : J) (kvs : KVs) (h : k ≠ "metadata") :
    metaOf (.obj (setKey k v kvs)) = metaOf (.obj kvs) := by
  simp only [metaOf, J.fields]
  rw [lookup_setKey_other _ _ _ _ (fun e => h e.symm)]

theorem metaOf_eraseKey_other (k : String) (kvs : KVs) (h : k ≠ "metadata") :
    metaOf (.obj (eraseKey k kvs)) = metaOf (.obj kvs) := by
  simp only [metaOf, J.fields]
  rw [lookup_eraseKey, if_neg (fun e : "metadata" = k => h e.symm)]

theorem metaOf_obj_fields (o : J) : metaOf (.obj o.fields) = metaOf o := rfl

theorem metaOf_of_obj {o : J} {m : KVs} (h : lookup "metadata" o.fields = some (.obj m)) : metaOf o = m := by
  unfold metaOf
  rw [h]

theorem metaOf_of_not_obj {o : J} (h : ∀ m, lookup "metadata" o.fields ≠ some (.obj m)) : metaOf o = [] := by
  unfold metaOf
  split
  · rename_i m hm
    exact absurd hm (h m)
  · rfl

theorem metaOf_setNested (o v o' : J) (k : String) (h : setNestedField o v ["metadata", k] = .ok o') :
    metaOf o' = setKey k v (metaOf o) := by
  rw [setNestedField_two] at h
  split at h
  · rename_i inner hm
    cases h
    rw [metaOf_of_obj hm]
    exact metaOf_withMeta o _
  · cases h
  · rename_i hm
    cases h
    rw [metaOf_of_not_obj (o := o) (by simp [hm])]
    exact metaOf_withMeta o _

theorem metaOf_removeNested (o : J) (k : String) : metaOf (removeNestedField o ["metadata", k]) = eraseKey k (metaOf o) := by
  rw [removeNestedField_two]
  split
  · rename_i inner hm
    rw [metaOf_of_obj hm]
    exact metaOf_withMeta o _
  · rename_i hm
    rw [metaOf_of_not_obj (o := o) (fun m e => hm m e)]
    exact metaOf_of_not_obj (o := .obj o.fields) (fun m e => hm m e)

theorem mstr_setNested_meta (o v : J) (k k' : String) (h : k ≠ k') :
    mstr (match setNestedField o v ["metadata", k'] with | .ok o' => o' | .error _ => o) k = mstr o k := by
  split
  · rename_i o' e
    unfold mstr
    rw [metaOf_setNested o v o' k' e, lookup_setKey_other _ _ _ _ h]
  · rfl

theorem mstr_setOwnerRefs (o : J) (refs : List OwnerRef) (k : String) (h : k ≠ "ownerReferences") :
    mstr (setOwnerRefs o refs) k = mstr o k := mstr_setNested_meta o _ k "ownerReferences" h

theorem mstr_removeNested_meta (o : J) (k k' : String) (h : k ≠ k') :
    mstr (removeNestedField o ["metadata", k']) k = mstr o k := by
  unfold mstr
  rw [metaOf_removeNested, lookup_eraseKey, if_neg h]

theorem mstr_eq_strAt (o : J) (k : String) : mstr o k = strAt o ["metadata", k] := by
  unfold mstr strAt metaOf
  cases o with
  | obj kvs =>
    simp only [J.fields, nestedField_obj_cons]
    cases lookup "metadata" kvs with
    | none => rfl
    | some v =>
      cases v with
      | obj m =>
        simp only [nestedField_obj_one]
        cases lookup k m with
        | none => rfl
        | some x => cases x <;> rfl
      | _ => rfl
  | _ => rfl

theorem nestedField_of_mstr (o : J) (k s : String) (h : mstr o k = s) (hs : s ≠ "") :
    nestedField o ["metadata", k] = .ok (some (.str s)) := by
  rw [mstr_eq_strAt] at h
  unfold strAt at h
  split at h
  · rename_i e
    rw [e, h]
  · exact absurd h.symm hs

theorem metaOf_keepStatus (cur o : J) : metaOf (keepStatus cur o) = metaOf o := by
  unfold keepStatus
  split
  · rw [metaOf_setKey_other _ _ _ (by decide), metaOf_obj_fields]
  · rw [metaOf_eraseKey_other _ _ (by decide), metaOf_obj_fields]

theorem lookup_top_keepStatus (cur o : J) (k : String) (hk : k ≠ "status") : lookup k (keepStatus cur o).fields = lookup k o.fields := by
  unfold keepStatus
  split
  · simp only [J.fields]; rw [lookup_setKey_other _ _ _ _ hk]
  · simp only [J.fields]; rw [lookup_eraseKey, if_neg hk]

theorem lookup_copyMeta (keys : List String) (cm : KVs) : ∀ (m : KVs) (k : String),
    lookup k (copyMeta keys cm m) = if k ∈ keys then lookup k cm else lookup k m := by
  unfold copyMeta
  induction keys with
  | nil => intro m k; simp
  | cons x xs ih =>
    intro m k
    rw [List.foldl_cons, ih]
    by_cases hk : k ∈ xs
    · simp [hk]
    · by_cases hx : k = x
      · subst hx
        cases lookup k cm <;> simp [hk, lookup_eraseKey, lookup_setKey_same]
      · cases lookup x cm <;> simp [hk, hx, lookup_eraseKey, lookup_setKey_other _ _ _ _ hx]

theorem mstr_bumpGeneration (cur o : J) (k : String) (h : k ≠ "generation") : mstr (bumpGeneration cur o) k = mstr o k := by
  unfold bumpGeneration
  split
  · rfl
  · exact mstr_setMeta_other _ _ _ _ h

theorem mstr_copyMeta_uid (keys : List String) (hk : "uid" ∈ keys) (body cur : J) :
    mstr (withMeta body (copyMeta keys (metaOf cur) (metaOf body))) "uid" = mstr cur "uid" := by
  rw [mstr_withMeta, lookup_copyMeta]
  simp [hk, mstr]

/-- `updated` is the body with the live object's server-owned metadata, then (for a status subresource) the live status,
    then possibly a new generation: what holds after the first step and survives the other two holds of the result -/
theorem updated_ind (Q : J → Prop) (d : ResDef) (cur body : J)
    (h0 : Q (withMeta body (copyMeta updateKeep (metaOf cur) (metaOf body))))
    (h1 : ∀ o, Q o → Q (keepStatus cur o)) (h2 : ∀ o n, Q o → Q (setMeta o "generation" (.num n))) :
    Q (updated d cur body) := by
  have h : ∀ o, Q o → Q (bumpGeneration cur o) := fun o ho => by
    unfold bumpGeneration
    split
    · exact ho
    · exact h2 _ _ ho
  unfold updated
  simp only []
  apply h
  split
  · exact h1 _ h0
  · exact h0

theorem mstr_updated_uid (d : ResDef) (cur body : J) : mstr (updated d cur body) "uid" = mstr cur "uid" :=
  updated_ind (fun o => mstr o "uid" = mstr cur "uid") d cur body (mstr_copyMeta_uid _ (by decide) _ _)
    (fun _ h => (mstr_of_metaOf_eq (metaOf_keepStatus _ _) _).trans h)
    (fun _ _ h => (mstr_setMeta_other _ _ _ _ (by decide)).trans h)

/-- `statusUpdated cur body` is `keepStatus body cur`: the live object with the status of the body -/
theorem mstr_statusUpdated (cur body : J) (k : String) : mstr (statusUpdated cur body) k = mstr cur k :=
  mstr_of_metaOf_eq (metaOf_keepStatus body cur) k

theorem mstr_appliedTo_uid (d : ResDef) (cur body last : J) : mstr (appliedTo d cur body last) "uid" = mstr cur "uid" := by
  unfold appliedTo
  simp only []
  split
  · rw [mstr_of_metaOf_eq (metaOf_keepStatus _ _)]
    exact mstr_copyMeta_uid _ (by decide) _ _
  · exact mstr_copyMeta_uid _ (by decide) _ _

theorem metaOf_created (d : ResDef) (t : Target) (body : J) (f : Fresh) (b : Bool) :
    metaOf (created d t body f b) =
      let m := if d.namespaced then setKey "namespace" (.str t.ns) (metaOf body) else metaOf body
      let m := if b then setKey "name" (.str t.name) m else m
      let m := setKey "creationTimestamp" (.str f.now) (setKey "generation" (.num 1)
        (setKey "resourceVersion" (.str f.rv) (setKey "uid" (.str f.uid) m)))
      if b then m else eraseKey "deletionTimestamp" m := by
  unfold created
  simp only []
  cases d.hasStatus
  · exact metaOf_withMeta ..
  · exact (metaOf_eraseKey_other _ _ (by decide)).trans (metaOf_withMeta ..)

theorem mstr_created (d : ResDef) (t : Target) (body : J) (f : Fresh) (b : Bool) :
    mstr (created d t body f b) "resourceVersion" = f.rv ∧ mstr (created d t body f b) "uid" = f.uid := by
  unfold mstr
  rw [metaOf_created]
  cases b <;> simp [lookup_setKey, lookup_eraseKey]

theorem created_obj (d : ResDef) (t : Target) (body : J) (f : Fresh) :
    ∃ os, created d t body f false = .obj os ∧ lookup "metadata" os = some (.obj (metaOf (created d t body f false))) ∧
      ∀ k, k ≠ "metadata" → lookup k os = if d.hasStatus = true ∧ k = "status" then none else lookup k body.fields := by
  unfold created
  simp only [Bool.false_eq_true, if_false]
  generalize (eraseKey "deletionTimestamp" _ : KVs) = m
  split
  · rename_i hs
    refine ⟨_, rfl, ?_, fun k hk => ?_⟩
    · rw [metaOf_eraseKey_other _ _ (by decide), metaOf_obj_fields, metaOf_withMeta, lookup_eraseKey, if_neg (by decide)]
      exact lookup_setKey_same _ _ _
    · rw [lookup_eraseKey, lookup_top_withMeta _ _ _ hk]
      simp [hs]
  · rename_i hs
    refine ⟨_, rfl, ?_, fun k hk => ?_⟩
    · rw [metaOf_withMeta]
      exact lookup_setKey_same _ _ _
    · rw [if_neg (fun h => hs h.1)]
      exact lookup_setKey_other _ _ _ _ hk

theorem lookup_created (d : ResDef) (t : Target) (body : J) (f : Fresh) (k : String)
    (hk : k ∉ ["uid", "resourceVersion", "generation", "creationTimestamp", "deletionTimestamp"]) :
    lookup k (metaOf (created d t body f false)) =
      if d.namespaced = true ∧ k = "namespace" then some (.str t.ns) else lookup k (metaOf body) := by
  simp only [List.mem_cons, List.not_mem_nil, or_false, not_or] at hk
  rw [metaOf_created]
  simp only [Bool.false_eq_true, if_false, lookup_eraseKey, lookup_setKey, hk]
  cases d.namespaced <;> simp [lookup_setKey]

theorem created_ownerRefs (d : ResDef) (t : Target) (body : J) (f : Fresh) :
    lookup "ownerReferences" (metaOf (created d t body f false)) = lookup "ownerReferences" (metaOf body) :=
  (lookup_created d t body f _ (by decide)).trans (if_neg fun h => absurd h.2 (by decide))

/-- the UID an object written over `cur` carries -/
def uidFor (cur : Option J) (f : Fresh) : String :=
  match cur with
  | some c => mstr c "uid"
  | none => f.uid

/-- the target after a request: untouched, gone, or an object with the fresh resourceVersion and the UID of its
    predecessor (the fresh UID if there was none) -/
def PostShape (cur : Option J) (f : Fresh) (post : Option J) : Prop :=
  post = cur ∨ post = none ∨
    ∃ o, post = some o ∧ mstr o "resourceVersion" = f.rv ∧ mstr o "uid" = uidFor cur f

theorem PostShape.ite {cur : Option J} {f : Fresh} {c : Prop} [Decidable c] {a b : Out}
    (ha : PostShape cur f a.post) (hb : ¬ c → PostShape cur f b.post) : PostShape cur f (if c then a else b).post := by
  split
  · exact ha
  · exact hb ‹_›

theorem stamped_shape (c o : J) (f : Fresh) (h : mstr o "uid" = mstr c "uid") :
    PostShape (some c) f (some (setMeta o "resourceVersion" (.str f.rv))) :=
  .inr (.inr ⟨_, rfl, mstr_setMeta_same _ _ _, (mstr_setMeta_other _ _ _ _ (by decide)).trans h⟩)

theorem created_shape (d : ResDef) (t : Target) (body : J) (f : Fresh) (b : Bool) :
    PostShape none f (some (created d t body f b)) :=
  .inr (.inr ⟨_, rfl, mstr_created ..⟩)

theorem commit_shape (cur o : J) (f : Fresh) (h : mstr o "uid" = mstr cur "uid") :
    PostShape (some cur) f (commit cur o f).post := by
  unfold commit
  simp only []
  refine .ite (.inl rfl) fun _ => ?_
  refine .ite (.inr (.inl rfl)) fun _ => ?_
  exact stamped_shape _ _ _ ((mstr_setMeta_other _ _ _ _ (by decide)).trans h)

theorem handle_shape (d : ResDef) (v : Verb) (t : Target) (cur : Option J) (body opts last : J) (f : Fresh) :
    PostShape cur f (handle d v t cur body opts last f).post := by
  cases v <;> simp only [handle]
  · -- get
    cases cur <;> exact .inl rfl
  · -- create
    refine .ite (.inl rfl) fun _ => ?_
    refine .ite (.inl rfl) fun h => ?_
    refine .ite (.inl rfl) fun _ => ?_
    cases cur
    · exact created_shape ..
    · simp at h
  · -- update
    cases cur with
    | none => exact .inl rfl
    | some c =>
      simp only [update]
      split
      · exact .inl rfl
      refine .ite (.inl rfl) fun _ => ?_
      refine .ite (.inl rfl) fun _ => ?_
      exact commit_shape _ _ _ (mstr_updated_uid ..)
  · -- updateStatus
    cases cur with
    | none => exact .inl rfl
    | some c =>
      simp only [updateStatus]
      split
      · exact .inl rfl
      · exact commit_shape _ _ _ (mstr_statusUpdated ..)
  · -- delete
    cases cur with
    | none => exact .inl rfl
    | some c =>
      refine .ite (.inl rfl) fun _ => ?_
      refine .ite (.inl rfl) fun _ => ?_
      refine .ite ?_ fun _ => .inr (.inl rfl)
      exact .ite (stamped_shape _ _ _ (mstr_setMeta_other _ _ _ _ (by decide))) fun _ => .inl rfl
  · -- patchRemove
    cases cur with
    | none => exact .inl rfl
    | some c =>
      simp only [patchRemove]
      split
      · exact .ite (stamped_shape _ _ _ (mstr_setMeta_other _ _ _ _ (by decide))) fun _ => .inl rfl
      · exact .inl rfl
  · -- apply
    refine .ite (.inl rfl) fun _ => ?_
    cases cur with
    | none => exact created_shape ..
    | some c =>
      refine .ite (.inl rfl) fun _ => ?_
      exact stamped_shape _ _ _ ((mstr_bumpGeneration _ _ _ (by decide)).trans (mstr_appliedTo_uid ..))

theorem updatePre_some (cur body : J) (c : Nat) (r : String) (h : updatePre cur body = some (c, r)) : 300 ≤ c := by
  unfold updatePre at h
  split at h; · cases h; decide
  split at h; · cases h; decide
  split at h; · cases h; decide
  split at h; · cases h; decide
  cases h

theorem updatePre_none (cur body : J) (h : updatePre cur body = none) :
    mstr body "resourceVersion" = mstr cur "resourceVersion" ∧ (mstr body "uid" = "" ∨ mstr body "uid" = mstr cur "uid") := by
  unfold updatePre at h
  split at h; · cases h
  split at h; · cases h
  split at h; · cases h
  split at h; · cases h
  rename_i h1 h2 h3 h4
  constructor
  · simpa using h4
  · by_cases e : mstr body "uid" = ""
    · exact .inl e
    · right; simpa [e] using h2

theorem fail_not_ok (c : Nat) (r : String) (cur : Option J) (h : 300 ≤ c) : (fail c r cur).ok = false := by
  have : ¬ c < 300 := by omega
  simp [fail, Out.ok, this]

/-- an accepted update, on either endpoint, met an object with the resourceVersion (and, if it names one, the UID) of its body -/
theorem write_ok {v : Verb} (hv : v = .update ∨ v = .updateStatus) (d : ResDef) (t : Target) (cur : Option J) (body opts last : J) (f : Fresh)
    (h : (handle d v t cur body opts last f).ok = true) :
    ∃ c, cur = some c ∧ mstr body "resourceVersion" = mstr c "resourceVersion" ∧
      (mstr body "uid" = "" ∨ mstr body "uid" = mstr c "uid") := by
  cases cur with
  | none => rcases hv with rfl | rfl <;> cases h
  | some c =>
    refine ⟨c, rfl, ?_⟩
    cases hpre : updatePre c body with
    | none => exact updatePre_none _ _ hpre
    | some cr =>
      have e : handle d v t (some c) body opts last f = fail cr.1 cr.2 (some c) := by
        rcases hv with rfl | rfl <;> simp only [handle, update, updateStatus, hpre]
      rw [e, fail_not_ok _ _ _ (updatePre_some _ _ _ _ hpre)] at h
      cases h

theorem delete_ok (cur : Option J) (opts : J) (f : Fresh) (u : String) (hu : precondition opts "uid" = some u)
    (h : (delete cur opts f).ok = true) : ∃ c, cur = some c ∧ mstr c "uid" = u := by
  unfold delete at h
  cases cur with
  | none => simp [fail, Out.ok] at h
  | some c =>
    refine ⟨c, rfl, ?_⟩
    simp only [] at h
    split at h
    · simp [fail, Out.ok] at h
    · rename_i hne
      simp [preFails, hu] at hne
      exact hne.symm

theorem create_ok (d : ResDef) (t : Target) (cur : Option J) (body : J) (f : Fresh) (h : (create d t cur body f).ok = true) :
    cur = none ∧ (create d t cur body f).post = some (created d t body f false) := by
  unfold create at h ⊢
  split at h; · simp [fail, Out.ok] at h
  split at h; · simp [fail, Out.ok] at h
  split at h; · simp [fail, Out.ok] at h
  rename_i h1 h2 h3
  simp only [h1, h2, h3]
  cases cur with
  | none => simp
  | some c => simp at h2

theorem update_post_shape (d : ResDef) (cur body : J) (f : Fresh) (o' : J) (h : (update d (some cur) body f).post = some o') :
    o' = cur ∨ ∃ x, o' = setMeta (setMeta (updated d cur body) "resourceVersion" (.str x)) "resourceVersion" (.str f.rv) := by
  unfold update at h
  simp only [] at h
  split at h; · simp [fail] at h; exact .inl h.symm
  split at h; · simp [fail] at h; exact .inl h.symm
  split at h; · simp [fail] at h; exact .inl h.symm
  unfold commit at h
  simp only [] at h
  split at h
  · cases h; exact .inl rfl
  · split at h
    · cases h
    · cases h; exact .inr ⟨_, rfl⟩

theorem toResp_ok {o : Out} {x : J} (h : o.toResp = .obj x) : o.ok = true := by
  unfold Out.toResp at h
  split at h
  · assumption
  · cases h

theorem toResp_of_ok {o : Out} (h : o.ok = true) : o.toResp = .obj (o.resp.getD .null) := by
  unfold Out.toResp
  rw [if_pos h]

theorem wfB_metaOf (o : J) (h : o.wfB = true) : (J.obj (metaOf o)).wfB = true := by
  unfold metaOf
  cases hl : lookup "metadata" o.fields with
  | none => rfl
  | some v =>
    cases v with
    | obj m =>
      exact ((wfB_obj o.fields).mp (C01.wfB_obj_of_fields o h)).2 "metadata" (.obj m) (lookup_mem _ _ _ hl)
    | _ => rfl

theorem wfB_withMeta (o : J) (m : KVs) (h : o.wfB = true) (hm : (J.obj m).wfB = true) : (withMeta o m).wfB = true :=
  wfB_setKey _ _ _ (C01.wfB_obj_of_fields o h) hm

theorem created_wfB (d : ResDef) (t : Target) (body : J) (f : Fresh) (h : body.wfB = true) :
    (created d t body f false).wfB = true := by
  unfold created
  simp only [Bool.false_eq_true, if_false]
  have h0 := wfB_metaOf body h
  have h3 : (J.obj (if d.namespaced = true then setKey "namespace" (J.str t.ns) (metaOf body) else metaOf body)).wfB = true := by
    split
    · exact wfB_setKey _ _ _ h0 rfl
    · exact h0
  have h5 := wfB_eraseKey "deletionTimestamp" _ (wfB_setKey "creationTimestamp" (.str f.now) _ (wfB_setKey "generation" (.num 1) _
    (wfB_setKey "resourceVersion" (.str f.rv) _ (wfB_setKey "uid" (.str f.uid) _ h3 rfl) rfl) rfl) rfl)
  have h6 := wfB_withMeta body _ h h5
  split
  · exact wfB_eraseKey "status" _ (C01.wfB_obj_of_fields _ h6)
  · exact h6

end Api
end Mc
