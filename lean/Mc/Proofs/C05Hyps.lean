import Mc.Proofs.ListMapLemmas
/-
  The hypothesis predicates of the C05 laws, read through `fields` / `items`: `noNullOverArr` (defined here), `hypJ`,
  `scalarKeys`; and what `scalarKeys` gives for a merge: a merged list-map item keeps the desired item's key
  (`merge_obj_keys`, `keyOf_merged`).
-/
namespace Mc.C05

-- "desired has no explicit null where observed has an array": the arr/null branch of `merge`
-- is not idempotent (see `C05_idempotent_null_counterexample`). Structural on desired.
-- For arrays every observed item is paired with every desired item (the pairing made by the
-- list-map merge depends on `l` and on the detected key; this is the simple upper bound).
mutual
def noNullOverArr : J → J → Bool
  | .arr _, .null => false
  | .obj os, .obj ds => noNullF os ds
  | .arr xs, .arr ds => noNullL xs ds
  | _, _ => true
termination_by structural _ d => d
def noNullF (os : KVs) : KVs → Bool
  | [] => true
  | (k, v) :: rest => noNullOverArr ((lookup k os).getD .null) v && noNullF os rest
termination_by structural ds => ds
def noNullL (xs : List J) : List J → Bool
  | [] => true
  | d :: rest => xs.all (fun x => noNullOverArr x d) && noNullL xs rest
termination_by structural ds => ds
end

theorem noNullOverArr_scalar {o d : J} (ha : o.isArr = false) (ho : o.isObj = false) : noNullOverArr o d = true := by
  cases o <;> simp [J.isArr, J.isObj] at ha ho <;> cases d <;> simp [noNullOverArr]

theorem noNull_field {os : KVs} {d : J} (h : noNullOverArr (.obj os) d = true) {k : String} {v : J}
    (hm : (k, v) ∈ d.fields) : noNullOverArr ((lookup k os).getD .null) v = true := by
  cases d with
  | obj ds =>
    rw [noNullOverArr] at h
    exact (andFold_fields (p := fun k v => noNullOverArr ((lookup k os).getD .null) v) rfl (fun _ _ _ => rfl) ds).mp h
      k v hm
  | _ => cases hm

theorem noNull_items {xs ds : List J} (h : noNullOverArr (.arr xs) (.arr ds) = true) :
    ∀ x ∈ xs, ∀ it ∈ ds, noNullOverArr x it = true := by
  rw [noNullOverArr] at h
  intro x hx it hit
  have := (andFold_items (p := fun d => xs.all (noNullOverArr · d)) rfl (fun _ _ => rfl) ds).mp h it hit
  exact List.all_eq_true.mp this x hx

theorem uniqUnder_iff (mk : String) (xs : List J) : uniqUnder mk xs = true ↔ (xs.map (keyOf mk)).Nodup := by
  unfold uniqUnder; exact nodup_of_eraseDups _

theorem hypJ_obj {mks : List String} {kvs : KVs} :
    hypJ mks (.obj kvs) = true ↔ uniq kvs ∧ ∀ k v, (k, v) ∈ kvs → hypJ mks v = true := by
  rw [hypJ, Bool.and_eq_true, uniqB_iff,
    andFold_fields (p := fun _ v => hypJ mks v) rfl (fun _ _ _ => rfl)]

theorem hypJ_arr {mks : List String} {xs : List J} :
    hypJ mks (.arr xs) = true ↔
      (∀ mk ∈ sharedKeys mks xs, (xs.map (keyOf mk)).Nodup) ∧ ∀ x ∈ xs, hypJ mks x = true := by
  simp only [hypJ, Bool.and_eq_true, List.all_eq_true, uniqUnder_iff,
    andFold_items (F := hypList mks) rfl (fun _ _ => rfl) xs]

theorem hypJ_fields {mks : List String} {d : J} (h : hypJ mks d = true) :
    uniq d.fields ∧ ∀ k v, (k, v) ∈ d.fields → hypJ mks v = true := by
  cases d with
  | obj ds => exact hypJ_obj.mp h
  | _ => exact ⟨trivial, fun _ _ hm => by cases hm⟩

theorem hypJ_items {mks : List String} {d : J} (h : hypJ mks d = true) : ∀ x ∈ d.items, hypJ mks x = true := by
  cases d with
  | arr ds => exact (hypJ_arr.mp h).2
  | _ => exact fun _ hm => by cases hm

theorem nodup_of_hypJ {mks : List String} {xs : List J} {mk : String} (h : hypJ mks (.arr xs) = true)
    (hmk : mk ∈ mks) (hall : Keyed mk xs) :
    (xs.map (keyOf mk)).Nodup := by
  cases xs with
  | nil => simp
  | cons it rest =>
    exact (hypJ_arr.mp h).1 mk ((mem_sharedKeys_iff mks _ mk).mpr ⟨hmk, by simp, hall⟩)

theorem nodup_items {mks : List String} {d : J} {mk : String} (h : hypJ mks d = true) (hmk : mk ∈ mks)
    (hk : Keyed mk d.items) : (d.items.map (keyOf mk)).Nodup := by
  cases d with
  | arr ds => exact nodup_of_hypJ h hmk hk
  | _ => exact List.nodup_nil

theorem hypJ_wfB {mks : List String} : ∀ {j : J}, hypJ mks j = true → j.wfB = true := by
  intro j
  induction j using J.induct with
  | harr xs ih =>
    intro h
    rw [hypJ_arr] at h
    rw [wfB_arr]
    exact fun x hx => ih x hx (h.2 x hx)
  | hobj kvs ih =>
    intro h
    rw [hypJ_obj] at h
    rw [wfB_obj]
    exact ⟨h.1, fun k v hm => ih k v hm (h.2 k v hm)⟩
  | _ => intro _; rfl

theorem scalarKeys_arr {mks : List String} {xs : List J} :
    scalarKeys mks (.arr xs) = true ↔ ∀ x ∈ xs, scalarKeys mks x = true := by
  rw [scalarKeys, andFold_items rfl (fun _ _ => rfl)]

theorem scalarKeys_obj {mks : List String} {kvs : KVs} :
    scalarKeys mks (.obj kvs) = true ↔
      (∀ k v, (k, v) ∈ kvs → k ∈ mks → v.isObj = false ∧ v.isArr = false) ∧
      ∀ k v, (k, v) ∈ kvs → scalarKeys mks v = true := by
  simp only [scalarKeys, Bool.and_eq_true, List.all_eq_true,
    andFold_fields (F := scalarKeysF mks) (p := fun _ v => scalarKeys mks v) rfl (fun _ _ _ => rfl) kvs]
  constructor
  · intro ⟨h1, h2⟩
    refine ⟨?_, h2⟩
    intro k v hm hk
    have := h1 (k, v) hm
    simp [hk] at this
    exact this
  · intro ⟨h1, h2⟩
    refine ⟨?_, h2⟩
    intro ⟨k, v⟩ hm
    by_cases hk : k ∈ mks
    · have := h1 k v hm hk
      simp [this.1, this.2]
    · simp [hk]

theorem scalarKeys_getD (mks : List String) (kvs : KVs) (mk : String) (hs : scalarKeys mks (.obj kvs) = true) (hmk : mk ∈ mks) :
    ((lookup mk kvs).getD .null).isObj = false ∧ ((lookup mk kvs).getD .null).isArr = false :=
  getD_ind (fun v => v.isObj = false ∧ v.isArr = false) ⟨rfl, rfl⟩ mk fun v hl =>
    (scalarKeys_obj.mp hs).1 mk v (lookup_mem _ _ _ hl) hmk

theorem scalarKeys_field (mks : List String) (kvs : KVs) (k : String) (hs : scalarKeys mks (.obj kvs) = true) :
    scalarKeys mks ((lookup k kvs).getD .null) = true :=
  getD_ind (scalarKeys mks · = true) rfl k fun v hl => (scalarKeys_obj.mp hs).2 k v (lookup_mem _ _ _ hl)

theorem keyOf_obj (mk : String) (kvs : KVs) : keyOf mk (.obj kvs) = stringMergeKey ((lookup mk kvs).getD .null) := rfl

theorem merge_obj_keys {mks : List String} {x : J} {l : Option J} {dkv : KVs} {m : J}
    (hu : uniq dkv) (h : merge mks x l (.obj dkv) = .ok m) :
    ∃ mkv, m = .obj mkv ∧ (∀ k, hasKey k dkv = true → hasKey k mkv = true) ∧
      (∀ mk', mk' ∈ mks → scalarKeys mks x = true → hasKey mk' dkv = true → lookup mk' mkv = lookup mk' dkv) := by
  cases merge_ok h with
  | scalar => exact ⟨dkv, rfl, fun _ hk => hk, fun _ _ _ _ => rfl⟩
  | plainArr _ _ _ hk => cases hk
  | listMap _ _ _ _ _ hk => cases hk
  | obj xkv _ _ rk _ hf =>
    obtain ⟨h1, _⟩ := obj_spec hu hf
    refine ⟨rk, rfl, ?_, ?_⟩
    · intro k hk
      obtain ⟨v, hv⟩ := (hasKey_true_iff _ _).mp hk
      obtain ⟨m', hm', _⟩ := h1 k v (lookup_mem _ _ _ hv)
      exact hasKey_of_lookup hm'
    · intro mk' hmk hs hk
      obtain ⟨dv, hdv⟩ := (hasKey_true_iff _ _).mp hk
      obtain ⟨m', hm', hmm⟩ := h1 mk' dv (lookup_mem _ _ _ hdv)
      have hsc := scalarKeys_getD mks xkv mk' hs hmk
      rw [merge_scalar hsc.1 hsc.2] at hmm
      cases hmm
      rw [hm', hdv]

theorem keyOf_merged {mks : List String} {x : J} {lo : Option J} {kvs : KVs} {m : J} {mk : String}
    (hmk : mk ∈ mks) (hs : scalarKeys mks x = true) (hu : uniq kvs) (hk : hasKey mk kvs = true)
    (h : merge mks x lo (.obj kvs) = .ok m) : keyOf mk m = keyOf mk (.obj kvs) := by
  obtain ⟨mkv, rfl, _, hkk⟩ := merge_obj_keys hu h
  rw [keyOf_obj, keyOf_obj, hkk mk hmk hs hk]

end Mc.C05
