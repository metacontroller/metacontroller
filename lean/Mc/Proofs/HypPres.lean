import Mc.Proofs.Laws
/-
  An input-only sufficient condition for `hypJ mks r` (the extra hypothesis of `C05_idempotent`):
  strong uniqueness `hypS` of observed and desired plus key coherence `coh` between them (`pres_all`).
-/
namespace Mc.C05

def having (mk : String) (xs : List J) : List J := xs.filter (fun it => hasKey mk it.fields)

-- strong uniqueness: object keys unique, and under EVERY conventional key the items of a list
-- that carry it have pairwise distinct key values (not only under the keys shared by all items)
mutual
def hypS (mks : List String) : J → Bool
  | .obj kvs => uniqB kvs && hypSF mks kvs
  | .arr xs => mks.all (fun mk => uniqUnder mk (having mk xs)) && hypSL mks xs
  | _ => true
def hypSF (mks : List String) : KVs → Bool
  | [] => true
  | (_, v) :: rest => hypS mks v && hypSF mks rest
def hypSL (mks : List String) : List J → Bool
  | [] => true
  | x :: rest => hypS mks x && hypSL mks rest
end

/-- an observed item and a desired item that denote the same entry under one conventional key
    denote the same entry under every conventional key both carry -/
def cohItem (mks : List String) (x it : J) : Bool :=
  mks.all (fun k1 => mks.all (fun k2 =>
    !(hasKey k1 x.fields && hasKey k2 x.fields && hasKey k1 it.fields && hasKey k2 it.fields) ||
    !(keyOf k1 x == keyOf k1 it) || (keyOf k2 x == keyOf k2 it)))

-- key coherence between observed and desired, structural on desired; as for `noNullOverArr`
-- every observed item is paired with every desired item
mutual
def coh (mks : List String) : J → J → Bool
  | .obj os, .obj ds => cohF mks os ds
  | .arr xs, .arr ds => cohL mks xs ds
  | _, _ => true
termination_by structural _ d => d
def cohF (mks : List String) (os : KVs) : KVs → Bool
  | [] => true
  | (k, v) :: rest => coh mks ((lookup k os).getD .null) v && cohF mks os rest
termination_by structural ds => ds
def cohL (mks : List String) (xs : List J) : List J → Bool
  | [] => true
  | d :: rest => xs.all (fun x => cohItem mks x d && coh mks x d) && cohL mks xs rest
termination_by structural ds => ds
end

theorem hypS_obj {mks : List String} {kvs : KVs} :
    hypS mks (.obj kvs) = true ↔ uniq kvs ∧ ∀ k v, (k, v) ∈ kvs → hypS mks v = true := by
  rw [hypS, Bool.and_eq_true, uniqB_iff,
    andFold_fields (p := fun _ v => hypS mks v) rfl (fun _ _ _ => rfl)]

theorem hypS_arr {mks : List String} {xs : List J} :
    hypS mks (.arr xs) = true ↔
      (∀ mk ∈ mks, ((having mk xs).map (keyOf mk)).Nodup) ∧ ∀ x ∈ xs, hypS mks x = true := by
  simp only [hypS, Bool.and_eq_true, List.all_eq_true, uniqUnder_iff,
    andFold_items (F := hypSL mks) rfl (fun _ _ => rfl) xs]

theorem hypS_fields {mks : List String} {d : J} (h : hypS mks d = true) :
    uniq d.fields ∧ ∀ k v, (k, v) ∈ d.fields → hypS mks v = true := by
  cases d with
  | obj ds => exact hypS_obj.mp h
  | _ => exact ⟨trivial, fun _ _ hm => by cases hm⟩

theorem hypS_items {mks : List String} {d : J} (h : hypS mks d = true) :
    (∀ mk ∈ mks, ((having mk d.items).map (keyOf mk)).Nodup) ∧ ∀ x ∈ d.items, hypS mks x = true := by
  cases d with
  | arr ds => exact hypS_arr.mp h
  | _ => exact ⟨fun _ _ => List.nodup_nil, fun _ hm => by cases hm⟩

theorem having_eq_self {mk : String} {xs : List J} (h : Keyed mk xs) : having mk xs = xs :=
  List.filter_eq_self.mpr h

theorem hypS_hypJ {mks : List String} : ∀ {j : J}, hypS mks j = true → hypJ mks j = true := by
  intro j
  induction j using J.induct with
  | harr xs ih =>
    intro h
    rw [hypS_arr] at h
    rw [hypJ_arr]
    refine ⟨?_, fun x hx => ih x hx (h.2 x hx)⟩
    intro mk hmk
    obtain ⟨h1, _, h2⟩ := (mem_sharedKeys_iff mks xs mk).mp hmk
    exact having_eq_self h2 ▸ h.1 mk h1
  | hobj kvs ih =>
    intro h
    rw [hypS_obj] at h
    rw [hypJ_obj]
    exact ⟨h.1, fun k v hm => ih k v hm (h.2 k v hm)⟩
  | _ => intro _; rfl

theorem coh_field {mks : List String} {os : KVs} {d : J} (h : coh mks (.obj os) d = true) {k : String} {v : J}
    (hm : (k, v) ∈ d.fields) : coh mks ((lookup k os).getD .null) v = true := by
  cases d with
  | obj ds =>
    rw [coh] at h
    exact (andFold_fields (p := fun k v => coh mks ((lookup k os).getD .null) v) rfl (fun _ _ _ => rfl) ds).mp h k v hm
  | _ => cases hm

theorem coh_items {mks : List String} {xs : List J} {d : J} (h : coh mks (.arr xs) d = true) :
    ∀ x ∈ xs, ∀ it ∈ d.items, cohItem mks x it = true ∧ coh mks x it = true := by
  cases d with
  | arr ds =>
    rw [coh] at h
    intro x hx it hit
    have := (andFold_items (p := fun d => xs.all fun x => cohItem mks x d && coh mks x d) rfl (fun _ _ => rfl) ds).mp h it hit
    simpa using List.all_eq_true.mp this x hx
  | _ => exact fun _ _ _ hm => by cases hm

theorem coh_scalar {mks : List String} {o d : J} (ha : o.isArr = false) (ho : o.isObj = false) : coh mks o d = true := by
  cases o <;> simp [J.isArr, J.isObj] at ha ho <;> cases d <;> simp [coh]

theorem cohItem_apply {mks : List String} {x it : J} (h : cohItem mks x it = true) {k1 k2 : String}
    (h1 : k1 ∈ mks) (h2 : k2 ∈ mks)
    (hx1 : hasKey k1 x.fields = true) (hx2 : hasKey k2 x.fields = true)
    (hi1 : hasKey k1 it.fields = true) (hi2 : hasKey k2 it.fields = true)
    (he : keyOf k1 x = keyOf k1 it) : keyOf k2 x = keyOf k2 it := by
  unfold cohItem at h
  rw [List.all_eq_true] at h
  have := h k1 h1
  rw [List.all_eq_true] at this
  have := this k2 h2
  simp [hx1, hx2, hi1, hi2, he] at this
  exact this

-- uniqueness of the rebuilt list under a second key `mk'` comes from uniqueness under `mk`, through representatives in
-- observed or desired (`rep_exists`)

theorem merge_obj_other_key {mks : List String} {x : J} {l : Option J} {dkv : KVs} {m : J} {k : String}
    (hu : uniq dkv) (h : merge mks x l (.obj dkv) = .ok m) (hd : lookup k dkv = none)
    (hk : hasKey k m.fields = true) :
    ∃ xkv, x = .obj xkv ∧ lookup k m.fields = lookup k xkv := by
  cases merge_ok h with
  | scalar =>
    rw [J.fields, hasKey_eq, hd] at hk
    cases hk
  | plainArr _ _ _ hk' => cases hk'
  | listMap _ _ _ _ _ hk' => cases hk'
  | obj xkv _ _ rk _ hf =>
    have h2 := (obj_spec hu hf).2 k hd
    simp only [J.fields] at hk ⊢
    rw [hasKey_eq, h2] at hk
    refine ⟨xkv, rfl, ?_⟩
    rw [h2]
    split at hk
    · cases hk
    · rename_i hc
      rw [if_neg hc]

theorem rep_exists {mks : List String} {mk mk' : String} {xs ll ds : List J} {merged : KVs}
    (hlm : LM mks mk xs ll ds merged) (hmk' : mk' ∈ mks)
    {a : J} (ha : a ∈ rebuild mk xs merged ds) (hk : hasKey mk' a.fields = true) :
    ∃ rep, (rep ∈ xs ∨ rep ∈ ds) ∧ hasKey mk' rep.fields = true ∧
      keyOf mk rep = keyOf mk a ∧ keyOf mk' rep = keyOf mk' a := by
  rcases mem_rebuild hlm.hnd hlm.hm ha with ⟨hax, _⟩ | ⟨it, hit, hm, hmm⟩
  · exact ⟨a, Or.inl hax, hk, rfl, rfl⟩
  · have hkey := hlm.key_kept hit hm
    obtain ⟨kvs, rfl⟩ := obj_of_hasKey (hlm.halld it hit)
    have hu := hlm.hud kvs hit
    cases hdk : hasKey mk' kvs with
    | true =>
      exact ⟨.obj kvs, Or.inr hit, hdk, hkey.symm,
        (keyOf_merged hmk' (partner_ind (scalarKeys mks · = true) rfl hlm.hsx _) hu hdk hmm).symm⟩
    | false =>
      obtain ⟨xkv, hx, hlk⟩ := merge_obj_other_key hu hmm ((hasKey_false_iff _ _).mp hdk) hk
      cases hl : lookup (keyOf mk (J.obj kvs)) (prunedMap mk xs ll ds) with
      | none =>
        rw [hl] at hx
        cases hx
      | some v =>
        rw [hl, Option.getD_some] at hx
        subst hx
        obtain ⟨hv, hkv⟩ := lookup_prunedMap_some hl
        refine ⟨.obj xkv, Or.inl hv, ?_, ?_, ?_⟩
        · rw [J.fields, hasKey_eq, ← hlk, ← hasKey_eq]
          exact hk
        · rw [hkv, hkey]
        · unfold keyOf
          rw [hlk]
          rfl

theorem nodup_rebuild_other {mks : List String} {mk mk' : String} {xs ll ds : List J} {merged : KVs}
    (hlm : LM mks mk xs ll ds merged) (hmk' : mk' ∈ mks)
    (hSx : ((having mk' xs).map (keyOf mk')).Nodup) (hSd : ((having mk' ds).map (keyOf mk')).Nodup)
    (hcoh : ∀ x ∈ xs, ∀ it ∈ ds, cohItem mks x it = true)
    (hall' : Keyed mk' (rebuild mk xs merged ds)) :
    ((rebuild mk xs merged ds).map (keyOf mk')).Nodup := by
  apply nodup_map_of_rep (keyOf mk) (keyOf mk') _ hlm.nodup_rs
  intro a ha b hb hab
  obtain ⟨ra, hra, hka, hra1, hra2⟩ := rep_exists hlm hmk' ha (hall' a ha)
  obtain ⟨rb, hrb, hkb, hrb1, hrb2⟩ := rep_exists hlm hmk' hb (hall' b hb)
  rw [← hra1, ← hrb1]
  have hab' : keyOf mk' ra = keyOf mk' rb := by rw [hra2, hrb2, hab]
  rcases hra with hra | hra <;> rcases hrb with hrb | hrb
  · have h1 : ra ∈ having mk' xs := List.mem_filter.mpr ⟨hra, hka⟩
    have h2 : rb ∈ having mk' xs := List.mem_filter.mpr ⟨hrb, hkb⟩
    rw [inj_of_nodup_map (keyOf mk') _ hSx ra h1 rb h2 hab']
  · exact cohItem_apply (hcoh ra hra rb hrb) hmk' hlm.hmk hka (hlm.hallx ra hra) hkb (hlm.halld rb hrb) hab'
  · exact (cohItem_apply (hcoh rb hrb ra hra) hmk' hlm.hmk hkb (hlm.hallx rb hrb) hka (hlm.halld ra hra) hab'.symm).symm
  · have h1 : ra ∈ having mk' ds := List.mem_filter.mpr ⟨hra, hka⟩
    have h2 : rb ∈ having mk' ds := List.mem_filter.mpr ⟨hrb, hkb⟩
    rw [inj_of_nodup_map (keyOf mk') _ hSd ra h1 rb h2 hab']

theorem pres_all (mks : List String) : ∀ d o l r, hypS mks o = true → hypS mks d = true → coh mks o d = true →
    scalarKeys mks o = true → merge mks o l d = .ok r → hypJ mks r = true := by
  intro d
  induction d using J.induct_sub with | _ d ihF ihI =>
  intro o l r ho hd hc hs h
  cases merge_ok h with
  | scalar | plainArr => exact hypS_hypJ hd
  | obj os l d rk _ hf =>
    obtain ⟨hu, hdv⟩ := hypS_fields hd
    obtain ⟨huo, hoi⟩ := hypS_obj.mp ho
    obtain ⟨hur, hmem⟩ := mem_merged hu huo hf
    refine hypJ_obj.mpr ⟨hur, fun k v hm => ?_⟩
    rcases hmem k v hm with ⟨dv, hmd, hmm⟩ | hmo
    · exact ihF k dv hmd _ _ v (getD_ind (hypS mks · = true) rfl k fun v hl => hoi k v (lookup_mem _ _ _ hl)) (hdv k dv hmd) (coh_field hc hmd) (scalarKeys_field mks os k hs) hmm
    · exact hypS_hypJ (hoi k v hmo)
  | listMap xs l d mk merged _ hdet hm =>
    obtain ⟨hmk, hallx, _, halld⟩ := detect3_some hdet
    obtain ⟨hSx, hoi⟩ := hypS_arr.mp ho
    obtain ⟨hSd, hdi⟩ := hypS_items hd
    have hnd : (d.items.map (keyOf mk)).Nodup := having_eq_self halld ▸ hSd mk hmk
    have hsx := scalarKeys_arr.mp hs
    have hcl := coh_items hc
    have hlm : LM mks mk xs (lastArr l) d.items merged :=
      ⟨hmk, hallx, halld, having_eq_self hallx ▸ hSx mk hmk, hnd, hsx,
        fun kvs hit => (hypS_obj.mp (hdi _ hit)).1, hm⟩
    refine hypJ_arr.mpr ⟨fun mk' hmk' => ?_, fun a ha => ?_⟩
    · obtain ⟨hmk'1, _, hmk'2⟩ := (mem_sharedKeys_iff mks _ mk').mp hmk'
      exact nodup_rebuild_other hlm hmk'1 (hSx mk' hmk'1) (hSd mk' hmk'1) (fun x hx it hit => (hcl x hx it hit).1) hmk'2
    · rcases mem_rebuild hnd hm ha with ⟨hax, _⟩ | ⟨it, hit, _, hmm⟩
      · exact hypS_hypJ (hoi a hax)
      · exact ihI it hit _ _ a (partner_ind (hypS mks · = true) rfl hoi _) (hdi it hit)
          (partner_ind (coh mks · it = true) (coh_scalar rfl rfl) (fun x hx => (hcl x hx it hit).2) _)
          (partner_ind (scalarKeys mks · = true) rfl hsx _) hmm

end Mc.C05
