import Mc.Proofs.JsonLemmas
import Mc.Apply
/-
  Round trips of the `unstructured` accessors of `Mc/Obj.lean` and of the edits of `Mc/Apply.lean` on paths of length one
  and two (owner references and `setLastApplied` on the shapes `MetaOK`), and `ApplyUpdate` taken apart: `applyUpdate_inv`
  (the steps of a successful one), `revertSystemFields_ind` (fold rule), `applyUpdate_keeps_meta`.
-/
namespace Mc

theorem nestedField_nil (j : J) : nestedField j [] = .ok (some j) := by
  cases j <;> rfl

theorem nestedField_obj_cons (kvs : KVs) (k : String) (ks : List String) :
    nestedField (.obj kvs) (k :: ks) = match lookup k kvs with | some v => nestedField v ks | none => .ok none := by
  cases h : lookup k kvs <;> simp [nestedField, h]

theorem nestedField_obj_one (kvs : KVs) (k : String) : nestedField (.obj kvs) [k] = .ok (lookup k kvs) := by
  rw [nestedField_obj_cons]
  cases lookup k kvs with
  | none => rfl
  | some v => simp [nestedField_nil]

theorem nestedField_obj_two {os m : KVs} {k1 : String} (f : String) (hm : lookup k1 os = some (.obj m)) :
    nestedField (.obj os) [k1, f] = .ok (lookup f m) := by
  rw [nestedField_obj_cons, hm]
  exact nestedField_obj_one m f

theorem nestedField_one_some (o : J) (k : String) (v : J) :
    nestedField o [k] = .ok (some v) ↔ ∃ kvs, o = .obj kvs ∧ lookup k kvs = some v := by
  constructor
  · intro h
    cases o with
    | obj kvs => rw [nestedField_obj_one] at h; exact ⟨kvs, rfl, by simpa using h⟩
    | _ => simp [nestedField] at h
  · rintro ⟨kvs, rfl, h⟩
    rw [nestedField_obj_one, h]

theorem nestedField_two_some (o : J) (k1 k2 : String) (v : J) :
    nestedField o [k1, k2] = .ok (some v) ↔
      ∃ kvs inner, o = .obj kvs ∧ lookup k1 kvs = some (.obj inner) ∧ lookup k2 inner = some v := by
  constructor
  · intro h
    cases o with
    | obj kvs =>
      rw [nestedField_obj_cons] at h
      split at h
      · rename_i m h1
        obtain ⟨inner, rfl, h2⟩ := (nestedField_one_some m k2 v).mp h
        exact ⟨kvs, inner, rfl, h1, h2⟩
      · cases h
    | _ => simp [nestedField] at h
  · rintro ⟨kvs, inner, rfl, h1, h2⟩
    rw [nestedField_obj_cons, h1]
    simp only []
    rw [nestedField_obj_one, h2]

theorem metadata_of_uid (cur : J) (h : getUID cur ≠ "") :
    ∃ kvs inner, cur = .obj kvs ∧ lookup "metadata" kvs = some (.obj inner) := by
  unfold getUID strAt at h
  split at h
  · rename_i s hs
    obtain ⟨kvs, inner, rfl, h1, _⟩ := (nestedField_two_some ..).mp hs
    exact ⟨kvs, inner, rfl, h1⟩
  · exact absurd rfl h

theorem setNestedField_one (o v : J) (k : String) : setNestedField o v [k] = .ok (.obj (setKey k v o.fields)) := by
  simp [setNestedField, setNestedFieldKVs]

theorem setNestedField_two (o v : J) (k1 k2 : String) :
    setNestedField o v [k1, k2] =
      match lookup k1 o.fields with
      | some (.obj inner) => .ok (.obj (setKey k1 (.obj (setKey k2 v inner)) o.fields))
      | some _ => .error "value cannot be set because path is not a map"
      | none => .ok (.obj (setKey k1 (.obj [(k2, v)]) o.fields)) := by
  unfold setNestedField
  rw [setNestedFieldKVs]
  cases h : lookup k1 o.fields with
  | none => simp [setNestedFieldKVs, setKey]
  | some m => cases m <;> simp [setNestedFieldKVs]

theorem removeNestedField_one (o : J) (k : String) : removeNestedField o [k] = .obj (eraseKey k o.fields) := by
  simp [removeNestedField, removeNestedFieldKVs]

theorem removeNestedField_two (o : J) (k1 k2 : String) :
    removeNestedField o [k1, k2] =
      match lookup k1 o.fields with
      | some (.obj inner) => .obj (setKey k1 (.obj (eraseKey k2 inner)) o.fields)
      | _ => .obj o.fields := by
  unfold removeNestedField
  rw [removeNestedFieldKVs]
  cases h : lookup k1 o.fields with
  | none => simp
  | some m => cases m <;> simp [removeNestedFieldKVs]

theorem nestedField_setNestedField_two (o v o' : J) (k1 k2 : String) (h : setNestedField o v [k1, k2] = .ok o') :
    nestedField o' [k1, k2] = .ok (some v) := by
  rw [setNestedField_two] at h
  rw [nestedField_two_some]
  split at h
  · rename_i inner _
    cases h
    exact ⟨_, _, rfl, lookup_setKey_same .., lookup_setKey_same ..⟩
  · cases h
  · cases h
    exact ⟨_, _, rfl, lookup_setKey_same .., by simp [lookup]⟩

theorem nestedField_setNestedField_two_other (o v o' : J) (k1 k2 k3 : String) (w : J) (hne : k3 ≠ k2)
    (h : setNestedField o v [k1, k2] = .ok o') (hw : nestedField o [k1, k3] = .ok (some w)) :
    nestedField o' [k1, k3] = .ok (some w) := by
  rw [nestedField_two_some] at hw
  obtain ⟨kvs, inner, rfl, h1, h3⟩ := hw
  rw [setNestedField_two] at h
  simp only [J.fields, h1] at h
  cases h
  rw [nestedField_two_some]
  exact ⟨_, _, rfl, lookup_setKey_same .., by rw [lookup_setKey_other _ _ _ _ hne]; exact h3⟩

theorem nestedField_removeNestedField_two_other (o : J) (k1 k2 k3 : String) (w : J) (hne : k3 ≠ k2)
    (hw : nestedField o [k1, k3] = .ok (some w)) :
    nestedField (removeNestedField o [k1, k2]) [k1, k3] = .ok (some w) := by
  rw [nestedField_two_some] at hw
  obtain ⟨kvs, inner, rfl, h1, h3⟩ := hw
  rw [removeNestedField_two]
  simp only [J.fields, h1]
  rw [nestedField_two_some]
  exact ⟨_, _, rfl, lookup_setKey_same .., by rw [lookup_eraseKey, if_neg hne]; exact h3⟩

theorem setNested_top_same (os : KVs) (k : String) (v : J) (h : lookup k os = some v) :
    setNestedField (.obj os) v [k] = .ok (.obj os) := by
  simp [setNestedField, setNestedFieldKVs, J.fields, setKey_id k v os h]

theorem setNested_meta_same (os m : KVs) (f : String) (v : J) (hm : lookup "metadata" os = some (.obj m)) (h : lookup f m = some v) :
    setNestedField (.obj os) v ["metadata", f] = .ok (.obj os) := by
  simp [setNestedField, setNestedFieldKVs, J.fields, hm, setKey_id f v m h, setKey_id "metadata" (.obj m) os hm]

theorem removeNested_top_absent (os : KVs) (k : String) (h : lookup k os = none) :
    removeNestedField (.obj os) [k] = .obj os := by
  simp [removeNestedField, removeNestedFieldKVs, J.fields, eraseKey_absent k os h]

theorem removeNested_meta_absent (os m : KVs) (f : String) (hm : lookup "metadata" os = some (.obj m)) (h : lookup f m = none) :
    removeNestedField (.obj os) ["metadata", f] = .obj os := by
  simp [removeNestedField, removeNestedFieldKVs, J.fields, hm, eraseKey_absent f m h, setKey_id "metadata" (.obj m) os hm]

theorem OwnerRef.ofJ_toJ (r : OwnerRef) : OwnerRef.ofJ (OwnerRef.toJ r) = r := by
  obtain ⟨av, k, n, u, c, b⟩ := r
  cases c <;> cases b <;> simp [OwnerRef.ofJ, OwnerRef.toJ, J.fields, lookup, boolPtr]

theorem OwnerRef.toJ_isObj (r : OwnerRef) : (OwnerRef.toJ r).isObj = true := rfl

theorem ownerRef_toJ_wfB (r : OwnerRef) : r.toJ.wfB = true := by
  unfold OwnerRef.toJ
  cases r.controller <;> cases r.blockOwnerDeletion <;> simp [J.wfB, wfsB, uniqB, hasKey, lookup]

/-- `metadata` is a map or absent: the shapes on which the `metadata.*` setters work -/
def MetaOK (o : J) : Prop := ∀ m, lookup "metadata" o.fields = some m → m.isObj = true

theorem filter_map_toJ (refs : List OwnerRef) :
    ((refs.map OwnerRef.toJ).filter J.isObj).map OwnerRef.ofJ = refs := by
  induction refs with
  | nil => rfl
  | cons r rest ih =>
    simp only [List.map_cons]
    rw [List.filter_cons_of_pos (OwnerRef.toJ_isObj r)]
    simp [OwnerRef.ofJ_toJ, ih]

theorem getOwnerRefs_setOwnerRefs (o : J) (refs : List OwnerRef) (h : MetaOK o) :
    getOwnerRefs (setOwnerRefs o refs) = refs := by
  unfold setOwnerRefs
  cases hs : setNestedField o (.arr (refs.map OwnerRef.toJ)) ["metadata", "ownerReferences"] with
  | ok o' =>
    simp only []
    unfold getOwnerRefs
    rw [nestedField_setNestedField_two _ _ _ _ _ hs]
    simp only []
    exact filter_map_toJ refs
  | error e =>
    rw [setNestedField_two] at hs
    split at hs
    · cases hs
    · rename_i m hnot hm
      have := h m hm
      cases m <;> simp_all [J.isObj]
    · cases hs

theorem metaOK_setOwnerRefs (o : J) (refs : List OwnerRef) (h : MetaOK o) : MetaOK (setOwnerRefs o refs) := by
  unfold setOwnerRefs
  cases hs : setNestedField o (.arr (refs.map OwnerRef.toJ)) ["metadata", "ownerReferences"] with
  | error e => exact h
  | ok o' =>
    simp only []
    rw [setNestedField_two] at hs
    intro m hm
    split at hs
    · cases hs; simp only [J.fields, lookup_setKey_same] at hm; cases hm; rfl
    · cases hs
    · cases hs; simp only [J.fields, lookup_setKey_same] at hm; cases hm; rfl

theorem setStringMapAt_two (o : J) (k1 k2 : String) (m : KVs) :
    setStringMapAt o [k1, k2] (some m) =
      match lookup k1 o.fields with
      | some (.obj inner) => .obj (setKey k1 (.obj (setKey k2 (.obj m) inner)) o.fields)
      | some _ => o
      | none => .obj (setKey k1 (.obj [(k2, .obj m)]) o.fields) := by
  unfold setStringMapAt
  simp only []
  rw [setNestedField_two]
  cases h : lookup k1 o.fields with
  | none => rfl
  | some x => cases x <;> rfl

theorem nestedField_setStringMapAt_two_other (o : J) (k1 k2 k3 : String) (m : KVs) (hne : k3 ≠ k2) (hobj : o.isObj = true) :
    nestedField (setStringMapAt o [k1, k2] (some m)) [k1, k3] = nestedField o [k1, k3] := by
  cases o with
  | obj kvs =>
    rw [setStringMapAt_two]
    simp only [J.fields]
    cases h : lookup k1 kvs with
    | none =>
      simp only []
      rw [nestedField_obj_two k3 (lookup_setKey_same ..), nestedField_obj_cons, h]
      simp [lookup, hne]
    | some x =>
      cases x with
      | obj inner =>
        simp only []
        rw [nestedField_obj_two k3 (lookup_setKey_same ..), nestedField_obj_two k3 h, lookup_setKey_other _ _ _ _ hne]
      | _ => rfl
  | _ => simp [J.isObj] at hobj

theorem nestedField_setStringMapAt_top_other (o : J) (k1 k2 k : String) (m : KVs) (hne : k ≠ k1) (hobj : o.isObj = true) :
    nestedField (setStringMapAt o [k1, k2] (some m)) [k] = nestedField o [k] := by
  cases o with
  | obj kvs =>
    rw [setStringMapAt_two]
    simp only [J.fields]
    cases h : lookup k1 kvs with
    | none =>
      simp only []
      rw [nestedField_obj_one, nestedField_obj_one, lookup_setKey_other _ _ _ _ hne]
    | some x =>
      cases x with
      | obj inner =>
        simp only []
        rw [nestedField_obj_one, nestedField_obj_one, lookup_setKey_other _ _ _ _ hne]
      | _ => rfl
  | _ => simp [J.isObj] at hobj

theorem setLastApplied_eq (o la : J) :
    setLastApplied o la = setStringMapAt o ["metadata", "annotations"] (some (setKey lastAppliedAnnotation la ((getAnnotations o).getD []))) := rfl

theorem metaOK_setLastApplied (o la : J) (h : MetaOK o) : MetaOK (setLastApplied o la) := by
  rw [setLastApplied_eq, setStringMapAt_two]
  cases hm : lookup "metadata" o.fields with
  | none =>
    simp only []
    intro m hm'
    simp only [J.fields, lookup_setKey_same] at hm'; cases hm'; rfl
  | some x =>
    cases x with
    | obj inner =>
      simp only []
      intro m hm'
      simp only [J.fields, lookup_setKey_same] at hm'; cases hm'; rfl
    | _ => exact h

theorem getOwnerRefs_setLastApplied (o la : J) : getOwnerRefs (setLastApplied o la) = getOwnerRefs o := by
  rw [setLastApplied_eq]
  cases o with
  | obj kvs =>
    unfold getOwnerRefs
    rw [nestedField_setStringMapAt_two_other _ _ _ _ _ (by decide) rfl]
  | _ =>
    -- not a map: the setter builds `{metadata: {annotations: …}}`, which has no owner references either
    simp [setStringMapAt_two, J.fields, lookup, getOwnerRefs, nestedField, setKey]

theorem controllerOf_append {d b : J} {ref : OwnerRef} (hb : getOwnerRefs b = getOwnerRefs d ++ [ref])
    (hc : ref.controller = some true) (hn : controllerOf d = none) : controllerOf b = some ref := by
  unfold controllerOf at hn ⊢
  rw [hb, List.find?_append, hn]
  simp [hc]

theorem applyUpdate_inv (mks sys : List String) (orig upd new : J) (h : applyUpdate mks sys orig upd = .ok new) :
    ∃ last merged r1 r2, getLastApplied orig = .ok last ∧ merge mks orig last (nullifyLastApplied upd) = .ok merged ∧
      revertSystemFields sys merged orig = .ok r1 ∧ revertField r1 orig ["status"] = .ok r2 ∧
      new = setLastApplied r2 (nullifyLastApplied upd) := by
  simp only [applyUpdate, bind, Except.bind, pure, Except.pure] at h
  split at h
  · cases h
  · rename_i last h0
    split at h
    · cases h
    · rename_i merged h1
      split at h
      · cases h
      · rename_i r1 h2
        split at h
        · cases h
        · rename_i r2 h3
          cases h
          exact ⟨last, merged, r1, r2, h0, h1, h2, h3, rfl⟩

theorem revertSystemFields_nil (acc orig : J) : revertSystemFields [] acc orig = .ok acc := rfl

theorem revertSystemFields_cons (f : String) (rest : List String) (acc orig : J) :
    revertSystemFields (f :: rest) acc orig =
      match revertField acc orig ["metadata", f] with
      | .ok a => revertSystemFields rest a orig
      | .error e => .error e := by
  unfold revertSystemFields
  rw [List.foldlM_cons]
  cases revertField acc orig ["metadata", f] <;> rfl

theorem revertSystemFields_ind {orig : J} (R : J → Prop) : ∀ (sys : List String) (acc y : J),
    (∀ f ∈ sys, ∀ a a', R a → revertField a orig ["metadata", f] = .ok a' → R a') → R acc →
    revertSystemFields sys acc orig = .ok y → R y := by
  intro sys
  induction sys with
  | nil =>
    intro acc y _ ha h
    cases h
    exact ha
  | cons f tl ih =>
    intro acc y hstep ha h
    rw [revertSystemFields_cons] at h
    split at h
    · rename_i a h1
      exact ih a y (fun f' hf' => hstep f' (List.mem_cons_of_mem _ hf'))
        (hstep f (List.mem_cons_self ..) _ _ ha h1) h
    · cases h

theorem revertField_meta_same (acc orig acc' : J) (f : String) (v : J)
    (h : revertField acc orig ["metadata", f] = .ok acc') (ho : nestedField orig ["metadata", f] = .ok (some v)) :
    nestedField acc' ["metadata", f] = .ok (some v) := by
  unfold revertField at h
  rw [ho] at h
  exact nestedField_setNestedField_two _ _ _ _ _ h

theorem revertField_meta_other (acc orig acc' : J) (f f' : String) (v : J) (hne : f ≠ f')
    (h : revertField acc orig ["metadata", f'] = .ok acc') (ha : nestedField acc ["metadata", f] = .ok (some v)) :
    nestedField acc' ["metadata", f] = .ok (some v) := by
  unfold revertField at h
  split at h
  · cases h
  · exact nestedField_setNestedField_two_other _ _ _ _ _ _ _ hne h ha
  · cases h
    exact nestedField_removeNestedField_two_other _ _ _ _ _ hne ha

theorem revertSystemFields_keeps (orig : J) (f : String) (v : J) (ho : nestedField orig ["metadata", f] = .ok (some v)) :
    ∀ (sys : List String) (acc r : J), revertSystemFields sys acc orig = .ok r →
      (nestedField acc ["metadata", f] = .ok (some v) ∨ f ∈ sys) → nestedField r ["metadata", f] = .ok (some v) := by
  intro sys
  induction sys with
  | nil =>
    intro acc r h hor
    cases h
    exact hor.resolve_right List.not_mem_nil
  | cons f' rest ih =>
    intro acc r h hor
    rw [revertSystemFields_cons] at h
    split at h
    · rename_i a hs
      refine ih a r h ?_
      by_cases hff : f = f'
      · subst hff
        exact .inl (revertField_meta_same _ _ _ _ _ hs ho)
      · exact hor.imp (revertField_meta_other _ _ _ _ _ _ hff hs) fun h1 => (List.mem_cons.mp h1).resolve_left hff
    · cases h

theorem revertField_top_keeps_two (acc orig acc' : J) (k k1 k2 : String) (v : J) (hne : k1 ≠ k)
    (h : revertField acc orig [k] = .ok acc') (ha : nestedField acc [k1, k2] = .ok (some v)) :
    nestedField acc' [k1, k2] = .ok (some v) := by
  rw [nestedField_two_some] at ha ⊢
  obtain ⟨kvs, inner, rfl, h1, h2⟩ := ha
  unfold revertField at h
  split at h
  · cases h
  · rw [setNestedField_one] at h
    cases h
    exact ⟨_, inner, rfl, by rw [lookup_setKey_other _ _ _ _ hne]; exact h1, h2⟩
  · rw [removeNestedField_one] at h
    cases h
    exact ⟨_, inner, rfl, by rw [lookup_eraseKey, if_neg hne]; exact h1, h2⟩

theorem revertField_top_same (acc orig acc' : J) (k : String)
    (h : revertField acc orig [k] = .ok acc') : nestedField acc' [k] = nestedField orig [k] ∧ acc'.isObj = true := by
  unfold revertField at h
  split at h
  · cases h
  · rename_i v hv
    rw [setNestedField_one] at h
    cases h
    rw [hv, nestedField_obj_one, lookup_setKey_same]
    exact ⟨rfl, rfl⟩
  · rename_i hv
    rw [removeNestedField_one] at h
    cases h
    rw [hv, nestedField_obj_one, lookup_eraseKey, if_pos rfl]
    exact ⟨rfl, rfl⟩

/-- system fields survive `ApplyUpdate`: a `metadata` field listed in `sys`, other than `annotations`, that the observed object carries reads
    the same in the result, whatever the desired object says -/
theorem applyUpdate_keeps_meta (mks sys : List String) (obs des new : J) (f : String) (v : J)
    (h : applyUpdate mks sys obs des = .ok new) (hf : f ∈ sys) (hne : f ≠ "annotations")
    (ho : nestedField obs ["metadata", f] = .ok (some v)) :
    nestedField new ["metadata", f] = .ok (some v) := by
  obtain ⟨last, merged, r1, r2, _, _, h2, h3, rfl⟩ := applyUpdate_inv _ _ _ _ _ h
  have a1 := revertSystemFields_keeps obs f v ho sys merged r1 h2 (Or.inr hf)
  have a2 := revertField_top_keeps_two _ _ _ "status" "metadata" f v (by decide) h3 a1
  rw [setLastApplied_eq, nestedField_setStringMapAt_two_other _ _ _ _ _ hne (revertField_top_same _ _ _ _ h3).2]
  exact a2

end Mc
