import Mc.Sync.Rolling
/-
  The claim map of the rolling update (C07 / C08): `Claims.get` / `set` through `getK` / `setK` on keys
  `(claimKey apiGroup kind, name)`; `ClaimStep`, what one step of claiming does to the map (`groupsKeys` / `keptKeys`: the keys a list of groups / of
  revisions holds; `SubGroups`: groups and names only dropped; `RevOut`: one revision before and after); the `_cons` equations of
  the folds; and one specification, completeness included, per claim fold: `filterNames_spec`, `filterGroups_spec`,
  `syncRevisionClaims_spec` (from the empty map: `syncRevisionClaims_holder`).  Core Lean only.
-/
namespace Mc

/-- key of the claim map: (`claimKey apiGroup kind`, name) -/
abbrev CKey := String × String

def Claims.getK (cl : Claims) (κ : CKey) : Option Nat := (cl.find? (fun e => e.1 == κ)).map (·.2)

def Claims.setK (cl : Claims) (κ : CKey) (i : Nat) : Claims :=
  cl.filter (fun e => !(e.1 == κ)) ++ [(κ, i)]

/-- Proofs cross from `get`/`set` to `getK`/`setK` by rewriting with this lemma and the next: left to the unifier
    (a `getK` fact given for a `get` goal while the key is still unknown) the step unfolds `filter` and
    `BEq (String × String)` and is very slow. -/
theorem Claims.get_eq_getK (cl : Claims) (a k n : String) : cl.get a k n = cl.getK (claimKey a k, n) := rfl

theorem Claims.set_eq_setK (cl : Claims) (a k n : String) (i : Nat) :
    cl.set a k n i = cl.setK (claimKey a k, n) i := rfl

@[simp] theorem Claims.getK_nil (κ : CKey) : Claims.getK [] κ = none := rfl

theorem Claims.getK_setK (cl : Claims) (κ κ' : CKey) (i : Nat) :
    (cl.setK κ i).getK κ' = if κ' = κ then some i else cl.getK κ' := by
  unfold Claims.getK Claims.setK
  rw [List.find?_append, List.find?_filter]
  by_cases h : κ' = κ
  · subst h
    rw [List.find?_eq_none.mpr (by simp)]
    simp
  · have h2 : List.find? (fun e : CKey × Nat => e.1 == κ') [(κ, i)] = none := by simp [Ne.symm h]
    rw [if_neg h, h2, Option.or_none]
    congr 2
    funext e
    by_cases he : e.1 = κ' <;> simp [he, h]

theorem Claims.get_set_same (cl : Claims) (a k n : String) (i : Nat) :
    (cl.set a k n i).get a k n = some i := by
  rw [Claims.get_eq_getK, Claims.set_eq_setK, Claims.getK_setK, if_pos rfl]

theorem Claims.get_set_other (cl : Claims) (a k n a' k' n' : String) (i : Nat)
    (h : (claimKey a' k', n') ≠ (claimKey a k, n)) :
    (cl.set a k n i).get a' k' n' = cl.get a' k' n' := by
  rw [Claims.get_eq_getK, Claims.set_eq_setK, Claims.getK_setK, if_neg h, Claims.get_eq_getK]

/-- one step of claiming: a list of fresh, distinct keys is added, everything else is kept -/
structure ClaimStep (cl cl' : Claims) (ks : List CKey) : Prop where
  fresh : ∀ κ ∈ ks, cl.getK κ = none
  nodup : ks.Nodup
  frame : ∀ κ, κ ∉ ks → cl'.getK κ = cl.getK κ
  claimed : ∀ κ ∈ ks, (cl'.getK κ).isSome = true

theorem ClaimStep.refl (cl : Claims) : ClaimStep cl cl [] :=
  ⟨by simp, List.nodup_nil, fun _ _ => rfl, by simp⟩

theorem ClaimStep.disjoint {cl cl1 cl2 : Claims} {ks1 ks2 : List CKey}
    (h1 : ClaimStep cl cl1 ks1) (h2 : ClaimStep cl1 cl2 ks2) : ∀ κ, κ ∈ ks1 → κ ∈ ks2 → False := by
  intro κ m1 m2
  have a := h1.claimed κ m1
  rw [h2.fresh κ m2] at a
  simp at a

theorem ClaimStep.trans {cl cl1 cl2 : Claims} {ks1 ks2 : List CKey}
    (h1 : ClaimStep cl cl1 ks1) (h2 : ClaimStep cl1 cl2 ks2) : ClaimStep cl cl2 (ks1 ++ ks2) := by
  have hd := ClaimStep.disjoint h1 h2
  refine ⟨?_, ?_, ?_, ?_⟩
  · intro κ hk
    rcases List.mem_append.mp hk with m | m
    · exact h1.fresh κ m
    · rw [← h1.frame κ (fun m1 => hd κ m1 m)]; exact h2.fresh κ m
  · rw [List.nodup_append]
    exact ⟨h1.nodup, h2.nodup, fun a ha b hb hab => hd a ha (hab ▸ hb)⟩
  · intro κ hk
    rw [List.mem_append, not_or] at hk
    rw [h2.frame κ hk.2, h1.frame κ hk.1]
  · intro κ hk
    rcases List.mem_append.mp hk with m | m
    · rw [h2.frame κ (fun m2 => hd κ m m2)]; exact h1.claimed κ m
    · exact h2.claimed κ m

theorem ClaimStep.mem_of_new {cl cl' : Claims} {ks : List CKey} (h : ClaimStep cl cl' ks) {κ : CKey}
    (h0 : cl.getK κ = none) (h1 : (cl'.getK κ).isSome = true) : κ ∈ ks := by
  apply Classical.byContradiction
  intro hk
  rw [h.frame κ hk, h0] at h1
  simp at h1

theorem ClaimStep.mono {cl cl' : Claims} {ks : List CKey} (h : ClaimStep cl cl' ks) {κ : CKey} {v : Nat}
    (hv : cl.getK κ = some v) : cl'.getK κ = some v := by
  rw [h.frame κ, hv]
  intro m
  rw [h.fresh κ m] at hv
  simp at hv

theorem ClaimStep.mono_isSome {cl cl' : Claims} {ks : List CKey} (h : ClaimStep cl cl' ks) {κ : CKey}
    (hv : (cl.getK κ).isSome = true) : (cl'.getK κ).isSome = true := by
  obtain ⟨v, hv⟩ := Option.isSome_iff_exists.mp hv
  rw [h.mono hv]; rfl

theorem ClaimStep.set {cl : Claims} {κ : CKey} (i : Nat) (h : cl.getK κ = none) :
    ClaimStep cl (cl.setK κ i) [κ] := by
  refine ⟨?_, by simp, fun κ' hk => ?_, ?_⟩
  · simpa using h
  · rw [Claims.getK_setK, if_neg (mt List.mem_singleton.mpr hk)]
  · simp [Claims.getK_setK]

def CGroup.key (g : CGroup) (n : String) : CKey := (claimKey g.apiGroup g.kind, n)

def CGroup.keys (g : CGroup) : List CKey := g.names.map g.key

def groupsKeys (gs : List CGroup) : List CKey := gs.flatMap CGroup.keys

/-- the pairs `(claimKey apiGroup kind, name)` held by a list of revisions: all revisions, groups and
    names, in order -/
def C07.keptKeys (prs : List PRev) : List (String × String) :=
  prs.flatMap (fun p => p.children.flatMap (fun g => g.names.map (fun n => (claimKey g.apiGroup g.kind, n))))
open C07 (keptKeys)

theorem mem_groupsKeys {gs : List CGroup} {κ : CKey} :
    κ ∈ groupsKeys gs ↔ ∃ g ∈ gs, ∃ n ∈ g.names, κ = g.key n := by
  simp only [groupsKeys, List.mem_flatMap, CGroup.keys, List.mem_map, eq_comm]

theorem mem_keptKeys {prs : List PRev} {κ : CKey} :
    κ ∈ keptKeys prs ↔ ∃ p ∈ prs, κ ∈ groupsKeys p.children := List.mem_flatMap

theorem groupsKeys_cons (g : CGroup) (gs : List CGroup) : groupsKeys (g :: gs) = g.keys ++ groupsKeys gs := rfl

theorem keptKeys_cons (p : PRev) (ps : List PRev) : keptKeys (p :: ps) = groupsKeys p.children ++ keptKeys ps := rfl

/-- eligibility of a name of group `g`: desired by the latest revision -/
abbrev Desired (d : ObjMap) (g : CGroup) (n : String) : Prop := (d.findGK g.apiGroup g.kind n).isSome = true

theorem filterNames_cons (c : Cfg) (d : ObjMap) (g : CGroup) (i : Nat) (n : String) (rest : List String) (cl : Claims) :
    filterNames c d g i (n :: rest) cl =
      if (d.findGK g.apiGroup g.kind n).isNone || (cl.getK (g.key n)).isSome then filterNames c d g i rest cl
      else (n :: (filterNames c d g i rest (cl.setK (g.key n) i)).1, (filterNames c d g i rest (cl.setK (g.key n) i)).2) := by
  rw [filterNames, Claims.get_eq_getK, Claims.set_eq_setK]
  show _ = if _ || (cl.getK (claimKey g.apiGroup g.kind, n)).isSome then _ else _
  cases d.findGK g.apiGroup g.kind n <;> cases cl.getK (claimKey g.apiGroup g.kind, n) <;> rfl

theorem filterNames_spec (c : Cfg) (d : ObjMap) (g : CGroup) (i : Nat) :
    ∀ (names : List String) (cl : Claims) {ns : List String} {cl' : Claims}, filterNames c d g i names cl = (ns, cl') →
    ns.Sublist names ∧ (∀ n ∈ ns, Desired d g n) ∧
    ClaimStep cl cl' (ns.map g.key) ∧ (∀ κ ∈ ns.map g.key, cl'.getK κ = some i) ∧
    (∀ n ∈ names, Desired d g n → (cl'.getK (g.key n)).isSome = true) := by
  intro names
  induction names with
  | nil =>
    rintro cl _ _ ⟨⟩
    exact ⟨.slnil, by simp, .refl cl, by simp, by simp⟩
  | cons n rest ih =>
    intro cl ns cl' h
    rw [filterNames_cons] at h
    split at h
    · rename_i hskip
      rw [Bool.or_eq_true, Option.isNone_iff_eq_none] at hskip
      obtain ⟨a, b, s, v, e⟩ := ih cl h
      refine ⟨a.cons _, b, s, v, List.forall_mem_cons.mpr ⟨fun hd => ?_, e⟩⟩
      rcases hskip with h0 | h0
      · rw [Desired, h0] at hd; simp at hd
      · exact s.mono_isSome h0
    · rename_i hkeep
      rw [Bool.or_eq_true, not_or, Option.isNone_iff_eq_none, Option.not_isSome_iff_eq_none] at hkeep
      obtain ⟨rfl, rfl⟩ := Prod.mk.inj h
      obtain ⟨a, b, s, v, e⟩ := ih (cl.setK (g.key n) i) rfl
      have hn := s.mono ((Claims.getK_setK cl (g.key n) (g.key n) i).trans (if_pos rfl))
      exact ⟨a.cons_cons _, List.forall_mem_cons.mpr ⟨Option.isSome_iff_ne_none.mpr hkeep.1, b⟩,
        (ClaimStep.set i hkeep.2).trans s, List.forall_mem_cons.mpr ⟨hn, v⟩,
        List.forall_mem_cons.mpr ⟨fun _ => by rw [hn]; rfl, e⟩⟩

/-- `gs'` is obtained from `gs` by dropping whole groups and, in the kept ones, dropping names
    (order kept, kept groups are non-empty) -/
inductive SubGroups : List CGroup → List CGroup → Prop
  | nil : SubGroups [] []
  | drop (g : CGroup) {gs' gs : List CGroup} : SubGroups gs' gs → SubGroups gs' (g :: gs)
  | keep (g : CGroup) (names : List String) {gs' gs : List CGroup} :
      names.Sublist g.names → names ≠ [] → SubGroups gs' gs →
      SubGroups ({ g with names := names } :: gs') (g :: gs)

theorem SubGroups.mem {gs' gs : List CGroup} (h : SubGroups gs' gs) :
    ∀ g' ∈ gs', ∃ g ∈ gs, g'.apiGroup = g.apiGroup ∧ g'.kind = g.kind ∧ g'.names.Sublist g.names ∧ g'.names ≠ [] := by
  induction h with
  | nil => intro g' hg; simp at hg
  | drop g _ ih =>
    intro g' hg
    obtain ⟨g0, m, r⟩ := ih g' hg
    exact ⟨g0, List.mem_cons_of_mem _ m, r⟩
  | keep g names hs hne _ ih =>
    intro g' hg
    rcases List.mem_cons.mp hg with rfl | hg
    · exact ⟨g, List.mem_cons_self, rfl, rfl, hs, hne⟩
    · obtain ⟨g0, m, r⟩ := ih g' hg
      exact ⟨g0, List.mem_cons_of_mem _ m, r⟩

theorem SubGroups.length_le {gs' gs : List CGroup} (h : SubGroups gs' gs) : gs'.length ≤ gs.length := by
  induction h with
  | nil => exact Nat.le_refl _
  | drop g _ ih => simp only [List.length_cons]; omega
  | keep g names _ _ _ ih => simp only [List.length_cons]; omega

theorem filterGroups_cons (c : Cfg) (d : ObjMap) (i : Nat) (g : CGroup) (rest : List CGroup) (cl : Claims) :
    filterGroups c d i (g :: rest) cl =
      if c.isRolling g.apiGroup g.kind = false then filterGroups c d i rest cl
      else
        (if (filterNames c d g i g.names cl).1 = [] then (filterGroups c d i rest (filterNames c d g i g.names cl).2).1
         else { g with names := (filterNames c d g i g.names cl).1 } ::
           (filterGroups c d i rest (filterNames c d g i g.names cl).2).1,
         (filterGroups c d i rest (filterNames c d g i g.names cl).2).2) := by
  rw [filterGroups]
  cases c.isRolling g.apiGroup g.kind
  · rfl
  · cases h : (filterNames c d g i g.names cl).1 <;> simp [h]

theorem filterGroups_spec (c : Cfg) (d : ObjMap) (i : Nat) :
    ∀ (gs : List CGroup) (cl : Claims) {gs' : List CGroup} {cl' : Claims}, filterGroups c d i gs cl = (gs', cl') →
    SubGroups gs' gs ∧
    (∀ g' ∈ gs', c.isRolling g'.apiGroup g'.kind = true ∧ ∀ n ∈ g'.names, Desired d g' n) ∧
    ClaimStep cl cl' (groupsKeys gs') ∧ (∀ κ ∈ groupsKeys gs', cl'.getK κ = some i) ∧
    (∀ g ∈ gs, c.isRolling g.apiGroup g.kind = true → ∀ n ∈ g.names, Desired d g n → (cl'.getK (g.key n)).isSome = true) := by
  intro gs
  induction gs with
  | nil =>
    rintro cl _ _ ⟨⟩
    exact ⟨.nil, by simp, .refl cl, by simp [groupsKeys], by simp⟩
  | cons g rest ih =>
    intro cl gs' cl' h
    rw [filterGroups_cons] at h
    split at h
    · rename_i hr
      obtain ⟨a, b, s, v, e⟩ := ih cl h
      exact ⟨a.drop g, b, s, v, List.forall_mem_cons.mpr ⟨fun hr' => absurd (hr.symm.trans hr') Bool.false_ne_true, e⟩⟩
    · rename_i hr
      rw [Bool.not_eq_false] at hr
      obtain ⟨na, nb, ns, nv, ne⟩ := filterNames_spec c d g i g.names cl rfl
      obtain ⟨a, b, s, v, e⟩ := ih (filterNames c d g i g.names cl).2 rfl
      generalize filterNames c d g i g.names cl = N at *
      generalize filterGroups c d i rest N.2 = G at *
      obtain ⟨rfl, rfl⟩ := Prod.mk.inj h
      have hcl : ClaimStep cl G.2 (N.1.map g.key ++ groupsKeys G.1) := ns.trans s
      have hv : ∀ κ ∈ N.1.map g.key ++ groupsKeys G.1, G.2.getK κ = some i :=
        List.forall_mem_append.mpr ⟨fun κ hκ => s.mono (nv κ hκ), v⟩
      have hc := List.forall_mem_cons.mpr ⟨fun _ n hn hd => s.mono_isSome (ne n hn hd), e⟩
      split
      · rename_i h0
        rw [h0] at hcl hv
        exact ⟨a.drop g, b, hcl, hv, hc⟩
      · rename_i h0
        exact ⟨a.keep g N.1 na h0, List.forall_mem_cons.mpr ⟨⟨hr, nb⟩, b⟩, hcl, hv, hc⟩

theorem syncRevisionClaims_cons (c : Cfg) (d : ObjMap) (p : PRev) (rest : List PRev) (i : Nat) (cl : Claims) :
    syncRevisionClaims c d (p :: rest) i cl =
      ({ p with children := (filterGroups c d i p.children cl).1 } ::
        (syncRevisionClaims c d rest (i + 1) (filterGroups c d i p.children cl).2).1,
       (syncRevisionClaims c d rest (i + 1) (filterGroups c d i p.children cl).2).2) := rfl

/-- what one output revision looks like, relative to the input revision at the same position -/
structure RevOut (c : Cfg) (d : ObjMap) (cl' : Claims) (v : Nat) (p p' : PRev) : Prop where
  parent : p'.parent = p.parent
  revision : p'.revision = p.revision
  resp : p'.resp = p.resp
  desired : p'.desired = p.desired
  sub : SubGroups p'.children p.children
  ok : ∀ g' ∈ p'.children, c.isRolling g'.apiGroup g'.kind = true ∧
        ∀ n ∈ g'.names, (d.findGK g'.apiGroup g'.kind n).isSome = true
  val : ∀ κ ∈ groupsKeys p'.children, cl'.getK κ = some v

theorem RevOut.get {c : Cfg} {d : ObjMap} {cl' : Claims} {v : Nat} {p p' : PRev} (r : RevOut c d cl' v p p')
    {g : CGroup} (hg : g ∈ p'.children) {n : String} (hn : n ∈ g.names) : cl'.get g.apiGroup g.kind n = some v := by
  rw [Claims.get_eq_getK]
  exact r.val _ (mem_groupsKeys.mpr ⟨g, hg, n, hn, rfl⟩)

/-- the last clause is completeness: a name that is eligible in revision `j` (rolling kind, desired by the latest
    revision) and unclaimed at the start ends up claimed by a revision at or before `j` -/
theorem syncRevisionClaims_spec (c : Cfg) (d : ObjMap) :
    ∀ (prs : List PRev) (i : Nat) (cl : Claims) {prs' : List PRev} {cl' : Claims},
    syncRevisionClaims c d prs i cl = (prs', cl') →
    ClaimStep cl cl' (keptKeys prs') ∧ prs'.length = prs.length ∧
    (∀ (j : Nat) (p' : PRev), prs'[j]? = some p' → ∃ p, prs[j]? = some p ∧ RevOut c d cl' (i + j) p p') ∧
    (∀ (j : Nat) (p : PRev), prs[j]? = some p → ∀ g ∈ p.children, c.isRolling g.apiGroup g.kind = true →
      ∀ n ∈ g.names, Desired d g n → cl.getK (g.key n) = none →
      ∃ v, cl'.getK (g.key n) = some v ∧ i ≤ v ∧ v ≤ i + j) := by
  intro prs
  induction prs with
  | nil =>
    rintro i cl _ _ ⟨⟩
    exact ⟨.refl cl, rfl, by simp, by simp⟩
  | cons p rest ih =>
    intro i cl prs' cl' h
    rw [syncRevisionClaims_cons] at h
    obtain ⟨ga, gb, gs, gv, ge⟩ := filterGroups_spec c d i p.children cl rfl
    obtain ⟨s, hlen, outs, compl⟩ := ih (i + 1) (filterGroups c d i p.children cl).2 rfl
    generalize filterGroups c d i p.children cl = G at *
    generalize syncRevisionClaims c d rest (i + 1) G.2 = S at *
    obtain ⟨rfl, rfl⟩ := Prod.mk.inj h
    -- a key claimed while filtering the head revision has value `i` at the end
    have hhead : ∀ κ, cl.getK κ = none → (G.2.getK κ).isSome = true → S.2.getK κ = some i :=
      fun κ h0 h1 => s.mono (gv κ (gs.mem_of_new h0 h1))
    refine ⟨gs.trans s, congrArg (· + 1) hlen, ?_, ?_⟩
    · rintro (_ | j) q hq
      · obtain rfl : _ = q := Option.some.inj hq
        exact ⟨p, rfl, rfl, rfl, rfl, rfl, ga, gb, fun κ hκ => s.mono (gv κ hκ)⟩
      · obtain ⟨q0, hq0, r⟩ := outs j q hq
        exact ⟨q0, hq0, (show i + 1 + j = i + (j + 1) by omega) ▸ r⟩
    · rintro (_ | j) q hq g hg hr n hn hd h0
      · obtain rfl : p = q := Option.some.inj hq
        exact ⟨i, hhead _ h0 (ge g hg hr n hn hd), Nat.le_refl _, Nat.le_refl _⟩
      · cases h1 : G.2.getK (g.key n) with
        | some v => exact ⟨i, hhead _ h0 (h1 ▸ rfl), Nat.le_refl _, Nat.le_add_right _ _⟩
        | none =>
          obtain ⟨v, hv, l1, l2⟩ := compl j q hq g hg hr n hn hd h1
          exact ⟨v, hv, by omega, by omega⟩

/-- started from the empty claim map, the revision a key is mapped to holds it -/
theorem syncRevisionClaims_holder {c : Cfg} {d : ObjMap} {prs prs' : List PRev} {cl' : Claims}
    (h : syncRevisionClaims c d prs 0 [] = (prs', cl')) {κ : CKey} {v : Nat} (hv : cl'.getK κ = some v) :
    ∃ p p', prs[v]? = some p ∧ prs'[v]? = some p' ∧ RevOut c d cl' v p p' ∧
      ∃ g ∈ p'.children, ∃ n ∈ g.names, κ = g.key n := by
  obtain ⟨step, _, outs, _⟩ := syncRevisionClaims_spec c d prs 0 [] h
  obtain ⟨p', hp', hk⟩ := mem_keptKeys.mp (step.mem_of_new rfl (by rw [hv]; rfl))
  obtain ⟨j, hj⟩ := List.getElem?_of_mem hp'
  obtain ⟨p, hp, r⟩ := outs j p' hj
  obtain rfl : 0 + j = v := Option.some.inj ((r.val κ hk).symm.trans hv)
  rw [Nat.zero_add] at r ⊢
  exact ⟨p, p', hp, hj, r, mem_groupsKeys.mp hk⟩

end Mc
