import Mc.Proofs.C05Hyps
/-
  Two laws of the three-way merge: a desired value that clashes with the observed one makes the merge fail (`clash_all`;
  being about failing merges it goes by the equations `merge_obj` / `merge_arr`, not by `merge_ok`), and the result of a
  successful merge contains the desired value (`cont_all`).
-/
namespace Mc.C05

theorem clash_null (o : J) : clash o .null = false := by
  cases o <;> simp [clash]

theorem clash_obj_obj (os ds : KVs) : clash (.obj os) (.obj ds) = clashFields os ds := by
  simp [clash]

theorem clash_scalar {o d : J} (h1 : o.isObj = false) (h2 : o.isArr = false) : clash o d = false := by
  cases o <;> simp [J.isObj, J.isArr] at h1 h2 <;> cases d <;> simp [clash]

theorem clash_arr_arr (xs ds : List J) : clash (.arr xs) (.arr ds) = false := by
  simp [clash]

theorem clashFields_true (os : KVs) : ∀ ds : KVs, clashFields os ds = true →
    ∃ k dv ov, (k, dv) ∈ ds ∧ lookup k os = some ov ∧ clash ov dv = true := by
  intro ds
  induction ds with
  | nil => intro h; simp [clashFields] at h
  | cons hd tl ih =>
    obtain ⟨k, dv⟩ := hd
    intro h
    simp only [clashFields, Bool.or_eq_true] at h
    rcases h with h | h
    · cases hl : lookup k os with
      | none => rw [hl] at h; simp at h
      | some ov => rw [hl] at h; exact ⟨k, dv, ov, by simp, hl, h⟩
    · obtain ⟨k', dv', ov', h1, h2, h3⟩ := ih h
      exact ⟨k', dv', ov', by simp [h1], h2, h3⟩

theorem clash_all (mks : List String) : ∀ d o l, d.wfB = true → clash o d = true → ∃ e, merge mks o l d = .error e := by
  intro d
  induction d using J.induct_sub with | _ d ihF _ =>
  intro o l hw hc
  cases o with
  | obj os =>
    rw [merge_obj]
    split
    · rename_i hk
      cases d with
      | obj ds =>
        obtain ⟨k, dv, ov, hm, hl, hc'⟩ := clashFields_true os ds (by rwa [clash_obj_obj] at hc)
        rw [wfB_obj] at hw
        simp only [J.fields]
        refine mergeFields_error mks _ ds _ k dv hw.1 hm ?_
        rw [lookup_prune_of_hasKey (hasKey_of_mem hm), hl]
        exact ihF k dv hm ov _ (hw.2 k dv hm) hc'
      | null => rw [clash_null] at hc; cases hc
      | _ => cases hk
    · exact ⟨_, rfl⟩
  | arr xs =>
    rw [merge_arr]
    split
    · rename_i hk
      cases d with
      | arr ds => rw [clash_arr_arr] at hc; cases hc
      | null => rw [clash_null] at hc; cases hc
      | _ => cases hk
    · exact ⟨_, rfl⟩
  | _ =>
    rw [clash_scalar rfl rfl] at hc
    cases hc

theorem containsFields_of {rs ds : KVs}
    (h : ∀ k v, (k, v) ∈ ds → ∃ w, lookup k rs = some w ∧ contains w v = true) : containsFields rs ds = true := by
  refine (andFold_fields (F := containsFields rs)
    (p := fun k v => match lookup k rs with | some w => contains w v | none => false) rfl (fun _ _ _ => rfl) ds).mpr ?_
  intro k v hm
  obtain ⟨w, hw, hc⟩ := h k v hm
  simp only [hw, hc]

theorem containsItems_of {rs ds : List J} (h : ∀ it ∈ ds, ∃ m ∈ rs, contains m it = true) :
    containsItems rs ds = true := by
  refine (andFold_items (F := containsItems rs) (p := fun it => rs.any fun r => contains r it) rfl (fun _ _ => rfl) ds).mpr ?_
  intro it hit
  exact List.any_eq_true.mpr (h it hit)

theorem contains_obj_obj (rs ds : KVs) : contains (.obj rs) (.obj ds) = containsFields rs ds := by
  simp [contains]

theorem contains_arr_arr (rs ds : List J) :
    contains (.arr rs) (.arr ds) = (eqvList rs ds || (ds.all J.isObj && containsItems rs ds)) := by
  simp [contains]

theorem contains_refl (mks : List String) : ∀ d, hypJ mks d = true → contains d d = true := by
  intro d
  induction d using J.induct with
  | hobj ds ih =>
    intro hd
    obtain ⟨hu, hdv⟩ := hypJ_obj.mp hd
    rw [contains_obj_obj]
    exact containsFields_of fun k v hm => ⟨v, lookup_of_mem_uniq _ _ _ hu hm, ih k v hm (hdv k v hm)⟩
  | harr ds _ =>
    intro hd
    rw [contains_arr_arr, show eqvList ds ds = true from J.eqv_refl (.arr ds) (hypJ_wfB hd)]
    rfl
  | _ =>
    intro _
    simp [contains, J.eqv, J.isObj, J.isArr]

theorem cont_all (mks : List String) : ∀ d o l r, hypJ mks d = true → merge mks o l d = .ok r → contains r d = true := by
  intro d
  induction d using J.induct_sub with | _ d ihF ihI =>
  intro o l r hd h
  cases merge_ok h with
  | scalar | plainArr => exact contains_refl mks d hd
  | obj os l d rk hk hf =>
    cases d with
    | obj ds =>
      obtain ⟨hu, hdv⟩ := hypJ_obj.mp hd
      rw [contains_obj_obj]
      refine containsFields_of fun k v hm => ?_
      obtain ⟨m, hlm, hmm⟩ := (obj_spec hu hf).1 k v hm
      exact ⟨m, hlm, ihF k v hm _ _ m (hdv k v hm) hmm⟩
    | null => simp [contains]
    | _ => cases hk
  | listMap xs l d mk merged hk hdet hm =>
    cases d with
    | arr ds =>
      simp only [J.items] at hdet hm ihI ⊢
      obtain ⟨hmk, _, _, halld⟩ := detect3_some hdet
      have hdi := (hypJ_arr.mp hd).2
      have hnd := nodup_of_hypJ hd hmk halld
      have h2 : ds.all J.isObj = true := List.all_eq_true.mpr fun it hit => by
        obtain ⟨kvs, rfl⟩ := obj_of_hasKey (halld it hit)
        rfl
      have h3 : containsItems (rebuild mk xs merged ds) ds = true := containsItems_of fun it hit => by
        obtain ⟨m, hm1, hmm⟩ := (mergeItems_spec hnd hm).1 it hit
        exact ⟨m, mem_rebuild_of_des hnd hit hm1, ihI it hit _ _ m (hdi it hit) hmm⟩
      rw [contains_arr_arr, h2, h3]
      simp
    | null => simp [contains]
    | _ => cases hk

end Mc.C05
