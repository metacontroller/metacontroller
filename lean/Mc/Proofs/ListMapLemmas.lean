import Mc.Proofs.MergeLemmas
import Mc.Spec.C05
/-
  The three-way merge on lists: key detection through `Keyed` (`commonKeys_spec`, `detect_some`), `makeListMap` and the
  pruned destination `prunedMap`, `mergeItems` (under distinct keys it is `mergeFields` over the fields `(key, item)`:
  `mergeItems_iff`), `rebuild`, the equation `merge_arr`; and `merge_ok`, the one inversion of a successful `merge`, into
  the four cases of `MergeOk` (scalar observed, plain array, object, list-map).
-/
namespace Mc

/-- every item is an object carrying `mk` -/
def Keyed (mk : String) (xs : List J) : Prop := ∀ it ∈ xs, hasKey mk it.fields = true

theorem keyed_cons (mk : String) (it : J) (rest : List J) :
    Keyed mk (it :: rest) ↔ hasKey mk it.fields = true ∧ Keyed mk rest := by
  simp [Keyed]

theorem contains_keysOf (kvs : KVs) (k : String) : (keysOf kvs).contains k = hasKey k kvs := by
  rw [Bool.eq_iff_iff, List.contains_iff_mem, hasKey_iff_mem_keys]

theorem foldl_commonStep_none (flat : List J) : flat.foldl commonStep none = none := by
  induction flat with
  | nil => rfl
  | cons hd tl ih => exact ih

theorem foldl_commonStep_some : ∀ (flat : List J) (ks : List String),
    (∀ ks', flat.foldl commonStep (some (some ks)) = some (some ks') → ∀ k, k ∈ ks' ↔ k ∈ ks ∧ Keyed k flat) ∧
    (flat.foldl commonStep (some (some ks)) = none → ∀ k, ¬ Keyed k flat) ∧
    flat.foldl commonStep (some (some ks)) ≠ some none := by
  intro flat
  induction flat with
  | nil =>
    intro ks
    refine ⟨fun ks' h k => ?_, nofun, nofun⟩
    cases h
    simp [Keyed]
  | cons hd tl ih =>
    intro ks
    cases hd with
    | obj kvs =>
      obtain ⟨h1, h2, h3⟩ := ih (ks.filter (fun k => hasKey k kvs))
      refine ⟨fun ks' h k => ?_, fun h k hk => h2 h k ((keyed_cons ..).mp hk).2, h3⟩
      rw [h1 ks' h k, keyed_cons, List.mem_filter]
      exact and_assoc
    | _ =>
      simp only [List.foldl_cons, commonStep, foldl_commonStep_none]
      refine ⟨(fun _ h => nomatch h), fun _ k hk => ?_, nofun⟩
      cases ((keyed_cons ..).mp hk).1

theorem commonKeys_spec (lists : List (List J)) :
    (∀ ks, commonKeys lists = some (some ks) → lists.flatten ≠ [] ∧ ∀ k, k ∈ ks ↔ Keyed k lists.flatten) ∧
    ((∀ ks, commonKeys lists ≠ some (some ks)) → lists.flatten = [] ∨ ∀ k, ¬ Keyed k lists.flatten) := by
  unfold commonKeys
  cases lists.flatten with
  | nil => exact ⟨(fun _ h => nomatch h), fun _ => .inl rfl⟩
  | cons it rest =>
    cases it with
    | obj kvs =>
      obtain ⟨h1, h2, h3⟩ := foldl_commonStep_some rest (keysOf kvs)
      refine ⟨fun ks h => ⟨by simp, fun k => ?_⟩, fun hno => .inr fun k hk => ?_⟩
      · rw [h1 ks h k, keyed_cons, ← hasKey_iff_mem_keys]
        rfl
      · cases hr : rest.foldl commonStep (some (some (keysOf kvs))) with
        | none => exact h2 hr k ((keyed_cons ..).mp hk).2
        | some o =>
          cases o with
          | none => exact h3 hr
          | some ks => exact hno ks hr
    | _ =>
      simp only [List.foldl_cons, commonStep, foldl_commonStep_none]
      refine ⟨(fun _ h => nomatch h), fun _ => .inr fun k hk => ?_⟩
      cases ((keyed_cons ..).mp hk).1

theorem detect_some {mks : List String} {lists : List (List J)} {mk : String}
    (h : detectListMapKey mks lists = some mk) : mk ∈ mks ∧ Keyed mk lists.flatten := by
  unfold detectListMapKey at h
  split at h
  · rename_i ks hc
    have hk := List.find?_some h
    rw [List.contains_iff_mem, ((commonKeys_spec lists).1 ks hc).2] at hk
    exact ⟨List.mem_of_find?_eq_some h, hk⟩
  · cases h

theorem detect_ne_none {mks : List String} {lists : List (List J)} {mk : String}
    (hmk : mk ∈ mks) (hne : lists.flatten ≠ []) (hall : Keyed mk lists.flatten) :
    ∃ mk', detectListMapKey mks lists = some mk' := by
  unfold detectListMapKey
  split
  · rename_i ks hc
    cases hf : mks.find? (fun k => ks.contains k) with
    | some mk' => exact ⟨mk', rfl⟩
    | none =>
      have := List.find?_eq_none.mp hf mk hmk
      rw [List.contains_iff_mem, ((commonKeys_spec lists).1 ks hc).2] at this
      exact absurd hall this
  · rename_i hno
    rcases (commonKeys_spec lists).2 (fun ks hc => hno ks hc) with h | h
    · exact absurd h hne
    · exact absurd hall (h mk)

theorem detect3_some {mks : List String} {xs ll ds : List J} {mk : String}
    (h : detectListMapKey mks [xs, ll, ds] = some mk) : mk ∈ mks ∧ Keyed mk xs ∧ Keyed mk ll ∧ Keyed mk ds := by
  obtain ⟨hmk, hall⟩ := detect_some h
  exact ⟨hmk, fun it hit => hall it (by simp [hit]), fun it hit => hall it (by simp [hit]),
    fun it hit => hall it (by simp [hit])⟩

/-- the keys under which `hypJ` asks a list to be unique -/
theorem mem_sharedKeys_iff (mks : List String) (xs : List J) (mk : String) :
    mk ∈ C05.sharedKeys mks xs ↔ mk ∈ mks ∧ xs ≠ [] ∧ Keyed mk xs := by
  have hspec := commonKeys_spec [xs]
  simp only [List.flatten_cons, List.flatten_nil, List.append_nil] at hspec
  unfold C05.sharedKeys
  split
  · rename_i ks hc
    obtain ⟨hne, hk⟩ := hspec.1 ks hc
    rw [List.mem_filter, List.contains_iff_mem, hk]
    exact ⟨fun h => ⟨h.1, hne, h.2⟩, fun h => ⟨h.1, h.2.2⟩⟩
  · rename_i hno
    constructor
    · intro h
      cases h
    · intro ⟨_, hne, hall⟩
      rcases hspec.2 (fun ks hc => hno ks hc) with h | h
      · exact absurd h hne
      · exact absurd hall (h mk)

namespace C05

theorem findItem_of_nodup {mk : String} {rs : List J} (hn : (rs.map (keyOf mk)).Nodup) {m : J}
    (hm : m ∈ rs) : findItem mk (keyOf mk m) rs = some m :=
  find?_of_nodup_map (keyOf mk) hn hm

theorem findItem_none {mk : String} {rs : List J} {k : String} (h : k ∉ rs.map (keyOf mk)) :
    findItem mk k rs = none := by
  unfold findItem
  rw [List.find?_eq_none]
  intro x hx hp
  simp only [beq_iff_eq] at hp
  exact h (hp ▸ List.mem_map_of_mem hx)

theorem desItem_of_nodup {mk : String} {ds : List J} (hn : (ds.map (keyOf mk)).Nodup) {it : J}
    (hm : it ∈ ds) : desItem mk (keyOf mk it) ds = some it := by
  refine find?_of_nodup_map (keyOf mk) ?_ (List.mem_reverse.mpr hm)
  rw [List.map_reverse]
  exact (List.reverse_perm _).nodup_iff.mpr hn

theorem desItem_some {mk : String} {ds : List J} {k : String} {di : J} (h : desItem mk k ds = some di) :
    di ∈ ds ∧ keyOf mk di = k := by
  unfold desItem at h
  have h1 := List.mem_of_find?_eq_some h
  have h2 := List.find?_some h
  simp only [beq_iff_eq] at h2
  exact ⟨List.mem_reverse.mp h1, h2⟩

theorem desItem_none {mk : String} {ds : List J} {k : String} (h : desItem mk k ds = none) :
    k ∉ ds.map (keyOf mk) := by
  unfold desItem at h
  rw [List.find?_eq_none] at h
  intro hk
  rw [List.mem_map] at hk
  obtain ⟨it, hit, he⟩ := hk
  exact h it (List.mem_reverse.mpr hit) (by simp [he])

end C05

open C05 in
/-- later duplicates win: the list-map holds what `desItem` finds -/
theorem lookup_foldl_setKey (mk k : String) : ∀ (items : List J) (acc : KVs),
    lookup k (items.foldl (fun m it => setKey (keyOf mk it) it m) acc) = (desItem mk k items).or (lookup k acc) := by
  intro items
  induction items with
  | nil =>
    intro acc
    rfl
  | cons it rest ih =>
    intro acc
    rw [List.foldl_cons, ih, lookup_setKey]
    unfold desItem
    rw [List.reverse_cons, List.find?_append, Option.or_assoc]
    congr 1
    by_cases e : k = keyOf mk it
    · subst e
      simp
    · have : (keyOf mk it == k) = false := beq_false_of_ne (Ne.symm e)
      simp [e, this]

open C05 in
theorem lookup_makeListMap (mk : String) (items : List J) (k : String) :
    lookup k (makeListMap mk items) = desItem mk k items := by
  rw [makeListMap, lookup_foldl_setKey]
  exact Option.or_none

theorem lookup_makeListMap_mem {mk : String} {items : List J} {x : J}
    (hn : (items.map (keyOf mk)).Nodup) (hx : x ∈ items) :
    lookup (keyOf mk x) (makeListMap mk items) = some x := by
  rw [lookup_makeListMap]
  exact C05.desItem_of_nodup hn hx

theorem lookup_makeListMap_some {mk : String} {items : List J} {k : String} {v : J}
    (h : lookup k (makeListMap mk items) = some v) : v ∈ items ∧ keyOf mk v = k := by
  rw [lookup_makeListMap] at h
  exact C05.desItem_some h

theorem hasKey_makeListMap (mk : String) (items : List J) (k : String) :
    hasKey k (makeListMap mk items) = (items.map (keyOf mk)).contains k := by
  rw [hasKey, lookup_makeListMap, Bool.eq_iff_iff, C05.desItem, List.find?_isSome, List.contains_iff_mem, List.mem_map]
  simp only [List.mem_reverse, beq_iff_eq]

open C05 in
theorem lookup_makeListMap_eq_findItem {mk : String} {ll : List J} (hn : (ll.map (keyOf mk)).Nodup) (k : String) :
    lookup k (makeListMap mk ll) = findItem mk k ll := by
  by_cases hk : k ∈ ll.map (keyOf mk)
  · rw [List.mem_map] at hk
    obtain ⟨it, hit, rfl⟩ := hk
    rw [lookup_makeListMap_mem hn hit, findItem_of_nodup hn hit]
  · rw [findItem_none hk, ← hasKey_false_iff, hasKey_makeListMap, Bool.eq_false_iff, ne_eq, List.contains_iff_mem]
    exact hk

/-- the pruned destination map of the list-map branch -/
def prunedMap (mk : String) (xs ll ds : List J) : KVs :=
  (makeListMap mk xs).filter
    (fun kv => !(hasKey kv.1 (makeListMap mk ll) && !(ds.map (keyOf mk)).contains kv.1))

theorem lookup_prunedMap (mk : String) (xs ll ds : List J) (k : String) :
    lookup k (prunedMap mk xs ll ds) =
      if ((ll.map (keyOf mk)).contains k && !(ds.map (keyOf mk)).contains k) then none
      else lookup k (makeListMap mk xs) := by
  unfold prunedMap
  rw [lookup_filter (fun k => !(hasKey k (makeListMap mk ll) && !(ds.map (keyOf mk)).contains k)),
    hasKey_makeListMap]
  cases ((ll.map (keyOf mk)).contains k && !(ds.map (keyOf mk)).contains k) <;> simp

theorem lookup_prunedMap_some {mk : String} {xs ll ds : List J} {k : String} {v : J}
    (h : lookup k (prunedMap mk xs ll ds) = some v) : v ∈ xs ∧ keyOf mk v = k := by
  rw [lookup_prunedMap] at h
  split at h
  · cases h
  · exact lookup_makeListMap_some h

theorem prunedMap_self (mk : String) (xs ds : List J) : prunedMap mk xs ds ds = makeListMap mk xs := by
  unfold prunedMap
  apply List.filter_eq_self.mpr
  intro a _
  rw [hasKey_makeListMap]
  cases (ds.map (keyOf mk)).contains a.1 <;> simp

theorem prunedMap_nil (mk : String) (xs ll : List J) :
    prunedMap mk xs ll [] = (makeListMap mk xs).filter (fun kv => !(hasKey kv.1 (makeListMap mk ll))) := by
  unfold prunedMap
  exact List.filter_congr (fun kv _ => by simp)

theorem partner_ind {mk : String} {xs ll ds : List J} (Q : J → Prop) (hnull : Q .null) (hx : ∀ x ∈ xs, Q x)
    (k : String) : Q ((lookup k (prunedMap mk xs ll ds)).getD .null) :=
  getD_ind Q hnull k fun v hl => hx v (lookup_prunedMap_some hl).1

theorem mergeItems_nil (mks : List String) (mk : String) (d ls : KVs) : mergeItems mks mk d ls [] = .ok d := by
  rw [mergeItems]

theorem mergeItems_cons_skip (mks : List String) (mk : String) (d ls : KVs) (it : J) (rest : List J)
    (h : (rest.map (keyOf mk)).contains (keyOf mk it) = true) :
    mergeItems mks mk d ls (it :: rest) = mergeItems mks mk d ls rest := by
  rw [mergeItems]; simp only [h, if_true]

theorem mergeItems_cons (mks : List String) (mk : String) (d ls : KVs) (it : J) (rest : List J)
    (h : (rest.map (keyOf mk)).contains (keyOf mk it) = false) :
    mergeItems mks mk d ls (it :: rest) =
      match merge mks ((lookup (keyOf mk it) d).getD .null) (lookup (keyOf mk it) ls) it with
      | .ok m => mergeItems mks mk (setKey (keyOf mk it) m d) ls rest
      | .error e => .error e := by
  rw [mergeItems]; simp only [h, Bool.false_eq_true, if_false]
  split <;> simp_all

/-- under pairwise distinct keys no item is skipped: the fold over the items is the fold over the fields `(key, item)` -/
theorem mergeItems_iff {mks : List String} {mk : String} {ls : KVs} : ∀ {ds : List J} {d merged : KVs},
    (ds.map (keyOf mk)).Nodup →
    (mergeItems mks mk d ls ds = .ok merged ↔
      mergeFields mks d ls (ds.map fun it => (keyOf mk it, it)) = .ok (.obj merged)) := by
  intro ds
  induction ds with
  | nil =>
    intro d merged _
    rw [mergeItems_nil, List.map_nil, mergeFields_nil]
    simp
  | cons it rest ih =>
    intro d merged hn
    rw [List.map_cons, List.nodup_cons, ← List.contains_iff_mem, Bool.not_eq_true] at hn
    rw [mergeItems_cons _ _ _ _ _ _ hn.1, List.map_cons, mergeFields_cons]
    cases merge mks ((lookup (keyOf mk it) d).getD .null) (lookup (keyOf mk it) ls) it with
    | ok m => exact ih hn.2
    | error e => simp

theorem mergeItems_spec {mks : List String} {mk : String} {ls : KVs} {ds : List J} {d merged : KVs}
    (hn : (ds.map (keyOf mk)).Nodup) (h : mergeItems mks mk d ls ds = .ok merged) :
    (∀ it ∈ ds, ∃ m, lookup (keyOf mk it) merged = some m ∧
        merge mks ((lookup (keyOf mk it) d).getD .null) (lookup (keyOf mk it) ls) it = .ok m) ∧
    (∀ k, k ∉ ds.map (keyOf mk) → lookup k merged = lookup k d) := by
  have hk : keysOf (ds.map fun it => (keyOf mk it, it)) = ds.map (keyOf mk) := List.map_map
  obtain ⟨rk, hr, h1, h2⟩ := mergeFields_spec mks ls _ d _ ((uniq_iff_nodup _).mpr (hk ▸ hn)) ((mergeItems_iff hn).mp h)
  cases hr
  exact ⟨fun it hit => h1 _ it (List.mem_map_of_mem hit),
    fun k hk' => h2 k (lookup_none_of_not_mem_keys _ k (hk ▸ hk'))⟩

theorem mergeItems_fix (mks : List String) (mk : String) (rk ls : KVs) (ds : List J) (hn : (ds.map (keyOf mk)).Nodup)
    (h : ∀ it ∈ ds, ∃ m, lookup (keyOf mk it) rk = some m ∧ merge mks m (lookup (keyOf mk it) ls) it = .ok m) :
    mergeItems mks mk rk ls ds = .ok rk := by
  refine (mergeItems_iff hn).mpr (mergeFields_fix mks ls rk _ fun k v hm => ?_)
  obtain ⟨it, hit, e⟩ := List.mem_map.mp hm
  cases e
  exact h _ hit

theorem restItems_eq (mk : String) (merged : KVs) : ∀ (ds : List J) (seen : List String),
    (ds.map (keyOf mk)).Nodup →
    restItems mk merged ds seen =
      (ds.filter (fun it => !seen.contains (keyOf mk it))).map (fun it => (lookup (keyOf mk it) merged).getD .null) := by
  intro ds
  induction ds with
  | nil =>
    intro _ _
    rfl
  | cons it rest ih =>
    intro seen hn
    simp only [List.map_cons, List.nodup_cons] at hn
    simp only [restItems]
    cases hc : seen.contains (keyOf mk it) with
    | true =>
      rw [if_pos rfl, List.filter_cons_of_neg (by rw [hc]; simp)]
      exact ih seen hn.2
    | false =>
      rw [if_neg (by simp), List.filter_cons_of_pos (by rw [hc]; simp), List.map_cons, ih _ hn.2]
      congr 2
      refine List.filter_congr fun it2 hm => ?_
      have hne : keyOf mk it2 ≠ keyOf mk it := fun e => hn.1 (e ▸ List.mem_map_of_mem hm)
      simp [hne]

theorem rebuild_eq {mk : String} {xs : List J} {merged : KVs} {ds : List J} (hn : (ds.map (keyOf mk)).Nodup) :
    rebuild mk xs merged ds =
      xs.filterMap (fun it => lookup (keyOf mk it) merged) ++
      (ds.filter (fun it => !((xs.map (keyOf mk)).contains (keyOf mk it) && hasKey (keyOf mk it) merged))).map
        (fun it => (lookup (keyOf mk it) merged).getD .null) := by
  unfold rebuild
  simp only
  rw [restItems_eq mk merged ds _ hn]
  congr 2
  apply List.filter_congr
  intro it _
  congr 1
  rw [Bool.eq_iff_iff]
  simp only [List.contains_iff_mem, List.mem_filter, Bool.and_eq_true]

theorem mem_rebuild_of_des {mk : String} {xs : List J} {merged : KVs} {ds : List J}
    (hn : (ds.map (keyOf mk)).Nodup) {it m : J} (hit : it ∈ ds) (hm : lookup (keyOf mk it) merged = some m) :
    m ∈ rebuild mk xs merged ds := by
  rw [rebuild_eq hn, List.mem_append]
  cases hc : ((xs.map (keyOf mk)).contains (keyOf mk it) && hasKey (keyOf mk it) merged) with
  | true =>
    left
    simp only [Bool.and_eq_true, List.contains_iff_mem, List.mem_map] at hc
    obtain ⟨⟨x, hx, hkx⟩, _⟩ := hc
    rw [List.mem_filterMap]
    exact ⟨x, hx, by rw [hkx]; exact hm⟩
  | false =>
    right
    rw [List.mem_map]
    refine ⟨it, ?_, by rw [hm]; rfl⟩
    rw [List.mem_filter]
    exact ⟨hit, by rw [hc]; rfl⟩

/-- a `null` desired value reads as the empty list -/
theorem merge_arr (mks : List String) (xs : List J) (l : Option J) (d : J) :
    merge mks (.arr xs) l d =
      if d.isArr || d.isNull then
        match detectListMapKey mks [xs, lastArr l, d.items] with
        | none => .ok d
        | some mk =>
          (mergeItems mks mk (prunedMap mk xs (lastArr l) d.items) (makeListMap mk (lastArr l)) d.items).map
            fun merged => .arr (rebuild mk xs merged d.items)
      else .error "desired: expecting array" := by
  cases d with
  | arr ds =>
    rw [merge]
    simp only [J.isArr, J.items, Bool.true_or, if_true, prunedMap]
    cases detectListMapKey mks [xs, lastArr l, ds] with
    | none => rfl
    | some mk =>
      simp only []
      generalize mergeItems _ _ _ _ _ = r
      cases r <;> rfl
  | null =>
    rw [merge]
    simp only [J.isNull, J.items, Bool.or_true, if_true, mergeItems_nil, prunedMap_nil]
    cases detectListMapKey mks [xs, lastArr l, []] <;> rfl
  | _ => simp [merge, J.isArr, J.isNull]

inductive MergeOk (mks : List String) : J → Option J → J → J → Prop
  | scalar (o l d) : o.isObj = false → o.isArr = false → MergeOk mks o l d d
  | plainArr (xs l d) : (d.isArr || d.isNull) = true → detectListMapKey mks [xs, lastArr l, d.items] = none →
      MergeOk mks (.arr xs) l d d
  | obj (os l d rk) : (d.isObj || d.isNull) = true →
      mergeFields mks (prune os (lastObj l) d.fields) (lastObj l) d.fields = .ok (.obj rk) →
      MergeOk mks (.obj os) l d (.obj rk)
  | listMap (xs l d mk merged) : (d.isArr || d.isNull) = true →
      detectListMapKey mks [xs, lastArr l, d.items] = some mk →
      mergeItems mks mk (prunedMap mk xs (lastArr l) d.items) (makeListMap mk (lastArr l)) d.items = .ok merged →
      MergeOk mks (.arr xs) l d (.arr (rebuild mk xs merged d.items))

theorem merge_ok {mks : List String} {o : J} {l : Option J} {d r : J} (h : merge mks o l d = .ok r) :
    MergeOk mks o l d r := by
  cases o with
  | obj os =>
    rw [merge_obj] at h
    split at h
    · rename_i hk
      obtain ⟨rk, rfl⟩ := mergeFields_ok_obj _ _ _ _ _ h
      exact .obj _ _ _ _ hk h
    · cases h
  | arr xs =>
    rw [merge_arr] at h
    split at h
    · rename_i hk
      split at h
      · rename_i hdet
        cases h
        exact .plainArr _ _ _ hk hdet
      · rename_i mk hdet
        cases hm : mergeItems mks mk (prunedMap mk xs (lastArr l) d.items) (makeListMap mk (lastArr l)) d.items with
        | error e =>
          rw [hm] at h
          cases h
        | ok merged =>
          rw [hm] at h
          cases h
          exact .listMap _ _ _ _ _ hk hdet hm
    · cases h
  | _ =>
    rw [merge_scalar rfl rfl] at h
    cases h
    exact .scalar _ _ _ rfl rfl

theorem mem_rebuild {mks : List String} {mk : String} {xs ll ds : List J} {merged : KVs}
    (hn : (ds.map (keyOf mk)).Nodup)
    (hm : mergeItems mks mk (prunedMap mk xs ll ds) (makeListMap mk ll) ds = .ok merged)
    {a : J} (ha : a ∈ rebuild mk xs merged ds) :
    (a ∈ xs ∧ keyOf mk a ∉ ds.map (keyOf mk)) ∨
    (∃ it ∈ ds, lookup (keyOf mk it) merged = some a ∧
      merge mks ((lookup (keyOf mk it) (prunedMap mk xs ll ds)).getD .null)
        (lookup (keyOf mk it) (makeListMap mk ll)) it = .ok a) := by
  obtain ⟨h1, h2⟩ := mergeItems_spec hn hm
  rw [rebuild_eq hn, List.mem_append, List.mem_filterMap, List.mem_map] at ha
  rcases ha with ⟨x, hx, hxm⟩ | ⟨it, hit, rfl⟩
  · by_cases hk : keyOf mk x ∈ ds.map (keyOf mk)
    · obtain ⟨it, hit, hke⟩ := List.mem_map.mp hk
      obtain ⟨m, hm1, hm2⟩ := h1 it hit
      rw [← hke, hm1] at hxm
      cases hxm
      exact .inr ⟨it, hit, hm1, hm2⟩
    · rw [h2 _ hk] at hxm
      obtain ⟨hax, hka⟩ := lookup_prunedMap_some hxm
      exact .inl ⟨hax, hka ▸ hk⟩
  · have hit' := (List.mem_filter.mp hit).1
    obtain ⟨m, hm1, hm2⟩ := h1 it hit'
    rw [hm1]
    exact .inr ⟨it, hit', hm1, hm2⟩

end Mc
