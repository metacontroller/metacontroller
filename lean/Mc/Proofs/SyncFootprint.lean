import Mc.Props.C02
import Mc.Props.C04
/-
  What each sub-program of the syncs can do, whatever the API server and the hooks answer: one specification per
  phase, `<phase>_sat : SatE P tm (<phase> …)` (`Sat P (SndOwn tm)` for the tails). `P` is a parameter and is asked for on
  the requests the phase builds (of a hook phase: on every `sync` / `finalize` request, `∀ n q, P (.hook n q)`); the property files instantiate it with (negations of) the request classes of
  `Mc/Spec/ReqClass.lean`.  A hypothesis about `P` that mentions none of the program's arguments comes first (so that
  `lemma hyp ..` applies), one that mentions them comes last (`callHookDecorator_calls` apart).  Then the composite sync cut into its phases (`syncParentObjectFull_eq`, `syncRevisions_eq`:
  the pieces are definitions of this file, equal to the model by `rfl`) and halting in the revision phase
  (`syncRevisionsFrom_stops`).
-/
namespace Mc
open Prog

/-- claiming issues requests only for objects it adopts or releases, hence only while the parent is not being deleted -/
theorem claimAll_calls_alive {P : Req → Prop} (cx : ClaimCtx) (objs : List J) (st : AdoptState)
    (h : isDeleting cx.parent = false → P (.api .get cx.parentT .null .null) ∧
      ∀ o ∈ objs, P (.api .get (cx.childT o) .null .null) ∧ ∀ b, P (.api .update (cx.childT o) b .null)) :
    AllCalls P (claimAll cx objs st) := by
  refine (claimAll_calls cx objs st).mono ?_
  rintro r ⟨o, ho, hr⟩
  have ha : isDeleting cx.parent = false := by
    cases hp : isDeleting cx.parent with
    | false => rfl
    | true =>
      have inert := Mc.C04.C04_deleting_parent_inert (getUID cx.parent) (cx.selector.matches (labelsOf o)) o
      rw [← hp] at inert
      rcases hr with ⟨hd, _⟩ | ⟨hd, _⟩ | ⟨hd, _⟩
      · exact absurd hd inert.1
      · exact absurd hd inert.1
      · exact absurd hd inert.2
  exact hr.elim (h ha).1 ((h ha).2 o ho).1 ((h ha).2 o ho).2

/-- the requests `ManageChildren` may issue for one kind: any non-GET verb on an object of that resource -/
def OnInfo (P : Req → Prop) (info : KindInfo) : Prop :=
  ∀ (v : Verb) (ns name : String) (b o : J), v ≠ .get →
    P (.api v (targetOf info.group info.resource info.namespaced ns name) b o)

theorem manageChildren_calls {P : Req → Prop} (mks sys : List String) (children : List ChildRes) (ssa : Option String) (kt : KindTable)
    (pr : OwnerRef) (observed desired : ObjMap) (memo : Memo)
    (hP : ∀ av k info, kt.find av k = some info → OnInfo P info) :
    AllCalls P (manageChildren mks sys children ssa kt pr observed desired memo) := by
  cases ssa with
  | none =>
    refine (C02.C02_manage_requests_strong ..).mono (fun r h => ?_)
    cases h <;> exact hP _ _ _ ‹_› _ _ _ _ _ (by decide)
  | some fm =>
    refine (C02.C02_manage_requests_ssa ..).mono (fun r h => ?_)
    cases h <;> exact hP _ _ _ ‹_› _ _ _ _ _ (by decide)

section Composite
open PE
variable {P : Req → Prop} {tm : Bool}

def OnObject (P : Req → Prop) (t : Target) : Prop :=
  P (.api .get t .null .null) ∧ (∀ b, P (.api .update t b .null)) ∧ (∀ b, P (.api .updateStatus t b .null))

theorem syncObject_calls (fz : Finalizer) (t : Target) (obj : J)
    (hg : P (.api .get t .null .null)) (hp : ∀ b, P (.api .update t b .null)) : AllCalls P (fz.syncObject t obj) := by
  rcases fz.syncObject_cases t obj with h | ⟨f, h⟩
  · rw [h]
    exact .ret _
  · rw [h]
    exact atomicLoop_calls_of _ _ _ _ _ hg hp _

theorem callHookComposite_sat (hh : ∀ n q, P (.hook n q)) (c : Cfg) (parent : J) (observed related : ObjMap) :
    SatE P true (callHookComposite c parent observed related) := by
  unfold callHookComposite
  refine sat_call (hh _ _) (fun r => ?_)
  split
  · split
    · exact sat_fail _
    · exact sat_pure _
  · exact sat_tooMany _
  · exact sat_fail _
  · exact sat_fail _

theorem claimChildren_sat (c : Cfg) (cache : Cache) (parent : J)
    (h : isDeleting parent = false → P (.api .get (c.parentTarget parent) .null .null) ∧
      ∀ ch ∈ c.children, ∀ ns name, P (.api .get (targetOf ch.group ch.resource ch.namespaced ns name) .null .null) ∧
        ∀ b, P (.api .update (targetOf ch.group ch.resource ch.namespaced ns name) b .null)) :
    SatE P tm (claimChildren c cache parent) := by
  unfold claimChildren
  refine sat_bind (sat_ofExcept _) (fun selector => sat_foldlM _ _ _ (fun m ch hmem => ?_))
  refine sat_bind (sat_lift (claimAll_calls_alive _ _ _ (fun hd => ⟨(h hd).1, fun o _ => (h hd).2 ch hmem _ _⟩))) ?_
  rintro ⟨claimed, errs⟩
  dsimp only
  split
  · exact sat_fail _
  · exact sat_pure _

theorem compositePrep_sat (c : Cfg) (parent : J) (resp : CompResp)
    (hg : P (.api .get (c.parentTarget parent) .null .null))
    (hp : ∀ b, P (.api .update (c.parentTarget parent) b .null)) :
    SatE P tm (compositePrep c parent resp) := by
  unfold compositePrep
  extract_lets children jp
  have hjp : ∀ p, SatE P tm (jp p) := fun p =>
    sat_bind (sat_ofExcept _) (fun _ => sat_bind (sat_ofExcept _) (fun _ => sat_pure _))
  split
  · refine sat_bind (sat_lift (atomicLoop_calls_of _ _ _ _ _ hg hp _)) (fun r => ?_)
    split
    · exact sat_bind (sat_pure _) hjp
    · exact sat_bind (sat_fail _) hjp
  · exact sat_bind (sat_pure _) hjp

/-- results of the tails, which return `(memo, outcome)`: the outcome is no error other than the sync's own -/
abbrev SndOwn {α : Type} (tm : Bool) (r : α × Except Err Unit) : Prop := ∀ e, r.2 = .error e → OwnErr tm e

theorem sndOwn_ok {α : Type} (a : α) : Sat P (SndOwn tm) (Pure.pure (a, .ok ()) : Prog (α × Except Err Unit)) :=
  .ret (fun _ h => by cases h)

theorem sndOwn_fail {α : Type} (a : α) (m : String) :
    Sat P (SndOwn tm) (Pure.pure (a, .error (.fail m)) : Prog (α × Except Err Unit)) :=
  .ret (fun _ h => by cases h; exact .inl ⟨m, rfl⟩)

theorem compositeAct_sat (c : Cfg) (parent : J) (observed desired : ObjMap) (status : Option KVs) (memo : Memo)
    (hpar : OnObject P (c.parentTarget parent))
    (hch : (isDeleting parent = false ∨ c.finalizer.shouldFinalize parent = true) →
      ∀ av k info, c.kindTable.find av k = some info → OnInfo P info) :
    Sat P (SndOwn tm) (compositeAct c parent observed desired status memo) := by
  unfold compositeAct
  extract_lets parentRef jp
  -- `jp`: status update and verdict, whatever the children phase returned
  have hst : AllCalls P (updateParentStatus c parent status) := by
    refine atomicLoop_calls_of _ _ _ _ _ hpar.1 (fun b => ?_) _
    split
    · exact hpar.2.2 b
    · exact hpar.2.1 b
  have hjp : ∀ x, Sat P (SndOwn tm) (jp x) := by
    rintro ⟨errs, m⟩
    refine Sat.bind (.of_calls hst) (fun st _ => ?_)
    have verdict : Sat P (SndOwn tm) (if errs.isEmpty then Pure.pure (m, .ok ())
        else Pure.pure (m, .error (.fail "can't reconcile children")) : Prog (Memo × Except Err Unit)) := by
      split
      · exact sndOwn_ok _
      · exact sndOwn_fail _ _
    split
    · exact verdict
    · exact verdict
    · exact sndOwn_fail _ _
    · exact verdict
  split
  · rename_i h
    exact Sat.bind (.of_calls (manageChildren_calls _ _ _ _ _ _ _ _ _ (hch (by simpa using h)))) (fun x _ => hjp x)
  · exact hjp ([], memo)

theorem compositeTail_sat (c : Cfg) (parent : J) (observed : ObjMap) (resp : CompResp) (memo : Memo)
    (hpar : ∀ p, OnObject P (c.parentTarget p))
    (hch : ∀ av k info, c.kindTable.find av k = some info → OnInfo P info) :
    Sat P (SndOwn tm) (compositeTail c parent observed resp memo) := by
  unfold compositeTail
  refine Sat.bind (compositePrep_sat (tm := tm) c parent resp (hpar parent).1 (hpar parent).2.1) (fun p hp => ?_)
  cases p with
  | error e => exact .ret (fun _ h => by cases h; exact hp e rfl)
  | ok pd => exact compositeAct_sat _ _ _ _ _ _ (hpar _) (fun _ => hch)

end Composite

section Rolling
open PE
variable {P : Req → Prop} {tm : Bool}

theorem claimRevisions_sat (c : Cfg) (cache : Cache) (parent : J)
    (h : isDeleting parent = false → P (.api .get (c.parentTarget parent) .null .null) ∧
      ∀ name, P (.api .get (revTarget (getNamespace parent) name) .null .null) ∧
        ∀ b, P (.api .update (revTarget (getNamespace parent) name) b .null)) :
    SatE P tm (claimRevisions c cache parent) := by
  unfold claimRevisions
  refine sat_bind (sat_ofExcept _) (fun selector => ?_)
  refine sat_bind (sat_lift (claimAll_calls_alive _ _ _ (fun hd => ⟨(h hd).1, fun o _ => (h hd).2 _⟩))) ?_
  rintro ⟨claimed, errs⟩
  dsimp only
  split
  · exact sat_fail _
  · exact sat_pure _

theorem callHooks_sat (hh : ∀ n q, P (.hook n q)) (c : Cfg) (lp : J) (observed related : ObjMap) :
    ∀ (inputs : List (J × J × List CGroup)),
      Sat P (fun rs => ∀ x ∈ rs, ∀ e, x = .error e → OwnErr true e) (callHooks c lp observed related inputs)
  | [] => .ret (fun _ h => by cases h)
  | (p, rev, ch) :: rest => by
    unfold callHooks
    refine Sat.bind (callHookComposite_sat hh c p observed related) (fun r hr => ?_)
    refine Sat.bind (callHooks_sat hh c lp observed related rest) (fun rs hrs => .ret ?_)
    intro x hx e he
    rcases List.mem_cons.mp hx with rfl | hx
    · cases r with
      | ok resp => cases he
      | error e' => cases he; exact hr _ rfl
    · exact hrs x hx e he

/-- the writes of `manageRevisions`: delete, update, create of a ControllerRevision in the parent's namespace -/
def OnRevWrites (P : Req → Prop) (ns : String) : Prop :=
  ∀ (v : Verb) (name : String) (b o : J), (v = .delete ∨ v = .update ∨ v = .create) → P (.api v (revTarget ns name) b o)

theorem manageRevisions_sat (ns : String) (observed : List J) (desired : List (J × List CGroup))
    (hrev : OnRevWrites P ns) : SatE P tm (manageRevisions ns observed desired) :=
  have h := C02.manageRevisions_spec (tm := tm) ns observed desired
  ⟨h.calls.mono fun r hr => by cases hr <;> exact hrev _ _ _ _ (by simp), h.rets⟩

theorem syncRevisions_sat (hh : ∀ n q, P (.hook n q)) (c : Cfg) (cache : Cache) (parent : J) (observed related : ObjMap)
    (name : String) (hpar : P (.api .get (c.parentTarget parent) .null .null))
    (hrev : ∀ (v : Verb) (name : String) (b o : J), P (.api v (revTarget (getNamespace parent) name) b o)) :
    SatE P true (syncRevisions c cache parent observed related name) := by
  unfold syncRevisions
  split
  · exact callHookComposite_sat hh ..
  refine sat_bind (claimRevisions_sat c cache parent (fun _ => ⟨hpar, fun n => ⟨hrev .., fun b => hrev ..⟩⟩))
    (fun observedRevs => ?_)
  refine sat_bind (sat_ofExcept _) (fun latestPatch => sat_bind (sat_ofExcept _) (fun lo => ?_))
  dsimp -zeta only
  extract_lets jp2 jp
  have hjp2 : ∀ x, SatE P true (jp2 x) := fun x =>
    sat_bind (sat_ofExcept _) (fun y =>
      sat_bind (manageRevisions_sat _ _ _ (fun v n b o _ => hrev v n b o)) (fun _ => sat_pure _))
  have hjp : ∀ x, SatE P true (jp x) := by
    intro x
    unfold jp
    refine sat_bind_lift (callHooks_sat hh c parent observed related _) (fun results hres => ?_)
    split
    · -- the error thrown is one of the collected hook outcomes
      rename_i e he
      refine sat_bind (sat_throw e ?_) hjp2
      obtain ⟨x, hx, hxe⟩ := List.exists_of_findSome?_eq_some he
      cases x with
      | ok p => cases hxe
      | error e' => cases hxe; exact hres _ hx _ rfl
    · exact sat_bind (sat_pure _) hjp2
  split
  · exact sat_bind (sat_pure _) hjp
  · exact sat_bind (sat_ofExcept _) hjp

end Rolling

section Related
open PE
variable {P : Req → Prop}

theorem customizeResponse_sat (hC : ∀ q, P (.hook "customize" q)) (parent : J) (cached : CustCache) :
    SatE P true (customizeResponse parent cached) := by
  unfold customizeResponse
  split
  · exact sat_pure _
  · refine sat_call (hC _) (fun r => ?_)
    split
    · exact sat_pure _
    · exact sat_tooMany _
    · exact sat_fail _
    · exact sat_fail _

theorem getRelatedObjects_sat (hC : ∀ q, P (.hook "customize" q)) (enabled pn : Bool) (relRes : List ChildRes)
    (cache : Cache) (parent : J) (cached : CustCache) :
    SatE P true (getRelatedObjects enabled pn relRes cache parent cached) := by
  unfold getRelatedObjects
  split
  · exact sat_pure _
  refine sat_bind (customizeResponse_sat hC _ _) (fun bc => sat_bind (sat_ofExcept _) (fun rules => ?_))
  refine sat_bind (sat_foldlM _ _ _ (fun m orule _ => ?_)) (fun _ => sat_pure _)
  split
  · exact sat_pure _
  · split
    · exact sat_fail _
    · dsimp only
      split
      · exact sat_fail _
      · split
        · exact sat_fail _
        · exact sat_pure _
      · split
        · exact sat_fail _
        · exact sat_pure _
end Related

section Decorator
open PE
variable {P : Req → Prop} {tm : Bool}

theorem callHookDecorator_sat (hh : ∀ n q, P (.hook n q)) (c : DCfg) (parent : J) (observed related : ObjMap) :
    SatE P tm (callHookDecorator c parent observed related) := by
  unfold callHookDecorator
  refine sat_call (hh _ _) (fun r => ?_)
  split
  · split
    · exact sat_fail _
    · exact sat_pure _
  · exact sat_fail _
  · exact sat_fail _
  · exact sat_fail _

theorem callHookDecorator_calls (c : DCfg) (parent : J) (observed related : ObjMap) (hh : ∀ n q, P (.hook n q)) :
    AllCalls P (callHookDecorator c parent observed related) :=
  (callHookDecorator_sat (tm := false) hh c parent observed related).calls

theorem decoratorParentUpdate_sat (c : DCfg) (rule : ParentRes) (parent : J) (resp : DecResp)
    (hu : ∀ b, P (.api .update (targetOf rule.group rule.resource rule.namespaced (getNamespace parent) (getName parent)) b .null))
    (hs : ∀ b, P (.api .updateStatus (targetOf rule.group rule.resource rule.namespaced (getNamespace parent) (getName parent)) b .null)) :
    SatE P tm (decoratorParentUpdate c rule parent resp) := by
  unfold decoratorParentUpdate
  dsimp -zeta only
  extract_lets t pl pa ps u1 u2 jp
  refine sat_bind (sat_ofExcept _) (fun parentStatus => ?_)
  extract_lets
  -- `jp`: the object write, shared by every way the status write can end
  have hjp : ∀ x, SatE P tm (jp x) := by
    intro x
    unfold jp
    split
    · exact sat_pure _
    · refine sat_call (hu _) (fun r => ?_)
      split
      · exact sat_pure _
      · exact sat_pure _
      · exact sat_pure _
      · exact sat_fail _
      · exact sat_fail _
  split
  · refine sat_bind (sat_ofExcept _) (fun u => ?_)
    split
    · refine sat_call (hs _) (fun r => ?_)
      split
      · exact sat_bind (sat_pure _) hjp
      · exact sat_bind (sat_pure _) hjp
      · exact sat_bind (sat_pure _) hjp
      · exact sat_bind (sat_fail _) hjp
      · exact sat_bind (sat_fail _) hjp
    · exact sat_bind (sat_pure _) hjp
  · exact sat_pure _

theorem decoratorTail_sat (c : DCfg) (rule : ParentRes) (parent : J) (observed : ObjMap) (resp : DecResp) (memo : Memo)
    (hu : ∀ b, P (.api .update (targetOf rule.group rule.resource rule.namespaced (getNamespace parent) (getName parent)) b .null))
    (hs : ∀ b, P (.api .updateStatus (targetOf rule.group rule.resource rule.namespaced (getNamespace parent) (getName parent)) b .null))
    (hch : (isDeleting parent = false ∨ c.finalizer.shouldFinalize parent = true) →
      ∀ av k info, c.kindTable.find av k = some info → OnInfo P info) :
    Sat P (SndOwn tm) (decoratorTail c rule parent observed resp memo) := by
  unfold decoratorTail
  refine Sat.bind (decoratorParentUpdate_sat (tm := tm) c rule parent resp hu hs) (fun upd hupd => ?_)
  split
  · exact .ret (fun _ h => by cases h; exact hupd _ rfl)
  · exact sndOwn_ok _
  · dsimp only
    split
    · rename_i h
      refine Sat.bind (.of_calls (manageChildren_calls _ _ _ _ _ _ _ _ _ (hch (by simpa using h)))) (fun r _ => ?_)
      split
      · exact sndOwn_ok _
      · exact sndOwn_fail _ _
    · exact sndOwn_ok _
end Decorator

/-- what follows `syncRevisions`, as a function of its outcome: an error ends the sync -/
def tailCont (c : Cfg) (parent : J) (observed : ObjMap) (h : Hidden) (cust : CustCache) (resp : Except Err CompResp) :
    Prog (SyncRes × CustCache) :=
  match resp with
  | .error e => .ret ({ after := [], memo := h.memo, result := .error e }, cust)
  | .ok resp =>
    Prog.bind (compositeTail c parent observed resp h.memo) fun mt =>
      .ret ({ after := resyncOps resp, memo := mt.1, result := mt.2 }, cust)

/-- the sync after the finalizer phase, for the parent object as the finalizer phase left it -/
def afterFinalizer (c : Cfg) (cache : Cache) (parent : J) (newRevName : String) (h : Hidden) : Prog (SyncRes × CustCache) :=
  Prog.bind (claimChildren c cache parent) fun observed =>
    match observed with
    | .error e => .ret ({ after := [], memo := h.memo, result := .error e }, h.customize)
    | .ok observed =>
      Prog.bind (getRelatedObjects c.customize c.parentNamespaced c.related cache parent h.customize) fun rel =>
        match rel with
        | .error e => .ret ({ after := [], memo := h.memo, result := .error e }, h.customize)
        | .ok (related, cust) =>
          Prog.bind (syncRevisions c cache parent observed related newRevName) (tailCont c parent observed h cust)

/-- what follows the finalizer phase, as a function of its outcome -/
def finalizerCont (c : Cfg) (cache : Cache) (newRevName : String) (h : Hidden) (r : Except String J) : Prog (SyncRes × CustCache) :=
  match r with
  | .error e => .ret ({ after := [], memo := h.memo, result := .error (.fail s!"can't sync finalizer: {e}") }, h.customize)
  | .ok parent =>
    if c.ignored parent then .ret ({ after := [], memo := h.memo, result := .ok () }, h.customize)
    else afterFinalizer c cache parent newRevName h

theorem syncParentObjectFull_eq (c : Cfg) (cache : Cache) (parent : J) (newRevName : String) (h : Hidden) :
    syncParentObjectFull c cache parent newRevName h =
      if c.ignored parent then .ret ({ after := [], memo := h.memo, result := .ok () }, h.customize)
      else Prog.bind (c.finalizer.syncObject (c.parentTarget parent) parent) (finalizerCont c cache newRevName h) :=
  rfl

/-- `syncRevisions` after the ControllerRevisions have been claimed: the text of `syncRevisions` in `Sync/Rolling.lean`
    from that point on, so that `syncRevisions_eq` is `rfl` -/
def syncRevisionsFrom (c : Cfg) (parent : J) (observed related : ObjMap) (newRevName : String) (observedRevs : List J) : PE CompResp := do
  let fps := c.effectiveFieldPaths
  let latestPatch ← PE.ofExcept (makePatch parent fps)
  -- materialise each revision's parent
  let (latestRev, others) ← PE.ofExcept (observedRevs.foldlM (fun (acc : Option J × List (J × J × List CGroup)) rev =>
      match rev.get? "parentPatch" with
      | some (.obj pk) =>
          if (J.obj pk).eqv latestPatch then .ok (some rev, acc.2)
          else match applyPatch parent (.obj pk) fps with
            | .ok p => .ok (acc.1, acc.2 ++ [(p, rev, (revChildren rev).getD [])])
            | .error e => .error e
      | _ => .error "can't unmarshal ControllerRevision parentPatch") (none, []))
  let latestRevObj ← match latestRev with
    | some r => pure r
    | none => PE.ofExcept (newControllerRevision c parent latestPatch newRevName)
  let inputs := (parent, latestRevObj, (revChildren latestRevObj).getD []) :: others
  let results ← PE.lift (callHooks c parent observed related inputs)
  let prs ← match results.findSome? (fun r => match r with | .error e => some e | .ok _ => none) with
    | some e => PE.throw e
    | none => pure (results.filterMap (fun r => match r with | .ok p => some p | .error _ => none))
  let (prs, status) ← PE.ofExcept (syncRollingUpdate c prs observed)
  -- prune: the latest always stays
  let pruned := match prs with
    | [] => []
    | l :: rest => l :: rest.filter (fun p => p.count > 0)
  manageRevisions (getNamespace parent) observedRevs (pruned.map (fun p => (p.revision, p.children)))
  -- overlay the desired children of revisions that still hold claims
  let latest := pruned.headD default
  let desired := (pruned.drop 1).foldl (fun (m : ObjMap) p =>
      p.children.foldl (fun m g =>
        g.names.foldl (fun m n =>
          match p.desired.findGK g.apiGroup g.kind n with
          | some child => replaceIfExists m (getNamespace parent) child
          | none => m) m) m) latest.desired
  let resyncs := (pruned.map (·.resp.resyncAfter)).filter (· > 0)
  let resync := resyncs.foldl (fun acc x => if acc == 0 || x < acc then x else acc) 0
  pure { status := some status, children := desired.list.map some, resyncAfter := resync,
         finalized := pruned.all (·.resp.finalized) }

theorem syncRevisions_eq (c : Cfg) (cache : Cache) (parent : J) (observed related : ObjMap) (newRevName : String) :
    syncRevisions c cache parent observed related newRevName =
      if !c.anyRolling || (isDeleting parent && !c.finalizer.shouldFinalize parent) then
        callHookComposite c parent observed related
      else PE.bind (claimRevisions c cache parent) (syncRevisionsFrom c parent observed related newRevName) := by
  rfl

/-- the resources `ManageChildren` can touch are the configured child resources -/
theorem Cfg.kindTable_find (c : Cfg) (av k : String) (info : KindInfo) (h : c.kindTable.find av k = some info) :
    ∃ ch ∈ c.children, info.group = ch.group ∧ info.resource = ch.resource ∧ info.namespaced = ch.namespaced := by
  obtain ⟨e, hf, rfl⟩ := Option.map_eq_some_iff.mp h
  have hm := List.mem_of_find?_eq_some hf
  simp only [Cfg.kindTable, List.append_nil, List.mem_map] at hm
  obtain ⟨ch, hch, rfl⟩ := hm
  exact ⟨ch, hch, rfl, rfl, rfl⟩

section Halting
open PE

/-- in `manageRevisions` the first failure aborts -/
theorem manageRevisions_stops {G : Req → Resp → Prop} {Q : Req → Prop} (ns : String) (observed : List J)
    (desired : List (J × List CGroup)) (hG : ∀ r x, G r x → x.isErr = true) :
    StopsAfter G Q IsErr (manageRevisions ns observed desired : Prog _) := by
  -- each of the three writes fails on an error answer and is followed by nothing
  have write : ∀ (q : Req) (msg : String → String), StopsAfter G Q IsErr
      ((PE.lift (Prog.request q) >>= fun r => match r with | .err e => PE.fail (msg e) | _ => Pure.pure ()) : PE PUnit) := by
    intro q msg
    refine stops_request_bind _ _ (fun x => ?_) (fun x hx => ?_)
    · split <;> exact .ret _
    · have := hG _ _ hx
      cases x <;> simp [Resp.isErr] at this
      exact .ret _ ⟨_, rfl, trivial⟩
  unfold manageRevisions
  dsimp only
  split
  · exact .ret _
  · refine stops_bind (stops_forM _ (fun rev => ?_) _) (fun _ => stops_forM _ (fun d => ?_) _)
    · split
      · exact .ret _
      · exact write _ _
    · split
      · split
        · exact .ret _
        · exact write _ _
      · exact write _ _

def HasErr (rs : List (Except Err PRev)) : Prop := ∃ x ∈ rs, ∃ e, x = .error e

/-- the revision phase after the claims, for any guard: it halts as the two sub-programs in which a guard can occur
    do - the hook calls, after which an error among the outcomes is thrown at once, and `manageRevisions` -/
theorem syncRevisionsFrom_stops {G : Req → Resp → Prop} {Q : Req → Prop} (c : Cfg) (parent : J) (observed related : ObjMap)
    (name : String) (revs : List J)
    (hhooks : ∀ inputs, StopsAfter G Q HasErr (callHooks c parent observed related inputs))
    (hman : ∀ obs des, StopsAfter G Q IsErr (manageRevisions (getNamespace parent) obs des : Prog _)) :
    StopsAfter G Q IsErr (syncRevisionsFrom c parent observed related name revs : Prog _) := by
  unfold syncRevisionsFrom
  dsimp -zeta only
  extract_lets fps jp2
  refine stops_bind (.of_noG (allCalls_ofExcept _)) (fun latestPatch => stops_bind (.of_noG (allCalls_ofExcept _)) (fun lo => ?_))
  extract_lets jp
  have hjp2 : ∀ x, StopsAfter G Q IsErr (jp2 x) := fun x =>
    stops_bind (.of_noG (allCalls_ofExcept _)) (fun y => stops_bind (hman _ _) (fun _ => .ret _))
  have hjp : ∀ x, StopsAfter G Q IsErr (jp x) := by
    intro x
    unfold jp
    refine stops_bind_lift (hhooks _) (fun results => ?_) ?_
    · split
      · exact .ret _
      · exact hjp2 _
    · rintro results ⟨x, hx, e, rfl⟩
      split
      · exact ⟨.ret _, .ret _ ⟨_, rfl, True.intro⟩⟩
      · rename_i hnone
        have := List.findSome?_eq_none_iff.mp hnone _ hx
        simp at this
  split
  · exact hjp _
  · exact stops_bind (.of_noG (allCalls_ofExcept _)) hjp

/-- a failed ControllerRevision write that neither the claim logic swallows nor the retry loop retries -/
def RevWriteHardFailed (r : Req) (x : Resp) : Prop := r.isRevWrite = true ∧ HardErr x

theorem claimRevisions_hardHalts (c : Cfg) (cache : Cache) (parent : J) (pt : Target) :
    StopsAfter RevWriteHardFailed (fun r => r.isChildWrite pt = true) IsErr (claimRevisions c cache parent : Prog _) := by
  unfold claimRevisions
  refine stops_bind (.of_noG (allCalls_ofExcept _)) (fun selector => ?_)
  dsimp only
  refine stops_bind_lift (claimAll_hardHalts _ ?_ ?_ ?_ _ _) (fun a => ?_) (fun a ha => ?_)
  · exact fun r x h => ⟨h.2, (Bool.and_eq_true_iff.mp h.1).2⟩
  · intro t
    simp [Req.isChildWrite_get]
  · intro o b
    simp [Req.isChildWrite_of_not_child pt _ (Req.isChild_revTarget _ pt _ _ _ _)]
  · obtain ⟨claimed, errs⟩ := a
    dsimp only
    split <;> exact .ret _
  · obtain ⟨claimed, errs⟩ := a
    dsimp only at ha ⊢
    have : (!errs.isEmpty) = true := by cases errs <;> simp at ha ⊢
    rw [if_pos this]
    exact ⟨.ret _, .ret _ ⟨_, rfl, trivial⟩⟩

theorem syncRevisions_hardHalts (c : Cfg) (cache : Cache) (parent : J) (observed related : ObjMap) (name : String) (pt : Target) :
    StopsAfter RevWriteHardFailed (fun r => r.isChildWrite pt = true) IsErr
      (syncRevisions c cache parent observed related name : Prog _) := by
  have hook : ∀ n q x, ¬ RevWriteHardFailed (.hook n q) x := by
    intro n q x hx
    simp [RevWriteHardFailed, Req.isRevWrite_hook] at hx
  rw [syncRevisions_eq]
  split
  · exact .of_noG (callHookComposite_sat (fun n q => hook n q) ..).calls
  · refine stops_bind (claimRevisions_hardHalts c cache parent pt) (fun revs => ?_)
    refine syncRevisionsFrom_stops c parent observed related name revs
      (fun inputs => .of_noG (callHooks_sat (fun n q => hook n q) ..).calls) (fun obs des => ?_)
    refine manageRevisions_stops _ obs des ?_
    rintro r x ⟨_, e, rfl, _⟩
    rfl

end Halting

end Mc
