import Mc.Props.C01Update
/-
  Well-formedness (no duplicate keys at any level) is preserved by everything between an observed child and the
  object the API server stores for its update: the 3-way merge (C05), the reverts, the last-applied record, and the
  server's own edits.  This discharges the well-formedness hypothesis of `C01_updated_child_is_settled`
  (`C01_updated_child_is_settled'`).
-/
namespace Mc
namespace C01
open Api C05


theorem setNestedFieldKVs_wfB (v : J) (hv : v.wfB = true) : ∀ (path : List String) (kvs kvs' : KVs), (J.obj kvs).wfB = true →
    setNestedFieldKVs kvs v path = .ok kvs' → (J.obj kvs').wfB = true := by
  intro path
  induction path with
  | nil => intro kvs kvs' h e; simp [setNestedFieldKVs] at e; subst e; exact h
  | cons k rest ih =>
    intro kvs kvs' h e
    cases rest with
    | nil => simp [setNestedFieldKVs] at e; subst e; exact wfB_setKey k v kvs h hv
    | cons k2 ks =>
      simp only [setNestedFieldKVs] at e
      cases hl : lookup k kvs with
      | none =>
        simp only [hl] at e
        cases hi : setNestedFieldKVs [] v (k2 :: ks) with
        | error er => simp [hi] at e
        | ok inner' =>
          simp only [hi] at e
          cases e
          exact wfB_setKey k _ kvs h (ih [] inner' rfl hi)
      | some x =>
        cases x with
        | obj inner =>
          simp only [hl] at e
          cases hi : setNestedFieldKVs inner v (k2 :: ks) with
          | error er => simp [hi] at e
          | ok inner' =>
            simp only [hi] at e
            cases e
            exact wfB_setKey k _ kvs h (ih inner inner' (wfB_lookup h hl) hi)
        | _ => simp [hl] at e

theorem setNestedField_wfB {o v o' : J} {path : List String} (ho : o.wfB = true) (hv : v.wfB = true)
    (h : setNestedField o v path = .ok o') : o'.wfB = true := by
  unfold setNestedField at h
  cases hk : setNestedFieldKVs o.fields v path with
  | error e => simp [hk] at h
  | ok kvs' =>
    simp only [hk] at h
    cases h
    exact setNestedFieldKVs_wfB v hv path o.fields kvs' (wfB_obj_of_fields o ho) hk

theorem removeNestedFieldKVs_wfB : ∀ (path : List String) (kvs : KVs), (J.obj kvs).wfB = true → (J.obj (removeNestedFieldKVs kvs path)).wfB = true := by
  intro path
  induction path with
  | nil => intro kvs h; simpa [removeNestedFieldKVs] using h
  | cons k rest ih =>
    intro kvs h
    cases rest with
    | nil => simpa [removeNestedFieldKVs] using wfB_eraseKey k kvs h
    | cons k2 ks =>
      simp only [removeNestedFieldKVs]
      cases hl : lookup k kvs with
      | none => exact h
      | some x =>
        cases x with
        | obj inner => exact wfB_setKey k _ kvs h (ih inner (wfB_lookup h hl))
        | _ => exact h

theorem removeNestedField_wfB (o : J) (path : List String) (ho : o.wfB = true) : (removeNestedField o path).wfB = true :=
  removeNestedFieldKVs_wfB path o.fields (wfB_obj_of_fields o ho)

theorem nestedField_wfB : ∀ (path : List String) (o v : J), o.wfB = true → nestedField o path = .ok (some v) → v.wfB = true := by
  intro path
  induction path with
  | nil => intro o v h e; simp [nestedField] at e; subst e; exact h
  | cons k ks ih =>
    intro o v h e
    cases o with
    | obj kvs =>
      simp only [nestedField] at e
      cases hl : lookup k kvs with
      | none => simp [hl] at e
      | some x => simp only [hl] at e; exact ih x v (wfB_lookup h hl) e
    | _ => simp [nestedField] at e

theorem revertField_wfB {acc orig y : J} {path : List String} (ha : acc.wfB = true) (ho : orig.wfB = true)
    (h : revertField acc orig path = .ok y) : y.wfB = true := by
  unfold revertField at h
  split at h
  · cases h
  · rename_i v hv
    exact setNestedField_wfB ha (nestedField_wfB path orig v ho hv) h
  · cases h; exact removeNestedField_wfB acc path ha

theorem revertSystemFields_wfB (orig : J) (ho : orig.wfB = true) (sys : List String) (acc y : J) (ha : acc.wfB = true)
    (h : revertSystemFields sys acc orig = .ok y) : y.wfB = true :=
  revertSystemFields_ind (·.wfB = true) sys acc y (fun _ _ _ _ ha h1 => revertField_wfB ha ho h1) ha h

theorem getAnnotations_wfB (o : J) (ho : o.wfB = true) : (J.obj ((getAnnotations o).getD [])).wfB = true := by
  unfold getAnnotations stringMapAt
  split
  · rename_i kvs hn
    split
    · exact nestedField_wfB _ o (.obj kvs) ho hn
    · rfl
  · rfl

theorem setStringMapAt_wfB (o : J) (path : List String) (m : Option KVs) (ho : o.wfB = true)
    (hm : ∀ kvs, m = some kvs → (J.obj kvs).wfB = true) : (setStringMapAt o path m).wfB = true := by
  unfold setStringMapAt
  cases m with
  | none => exact removeNestedField_wfB o path ho
  | some kvs =>
    simp only []
    split
    · rename_i o' h
      exact setNestedField_wfB ho (hm kvs rfl) h
    · exact ho

theorem setLastApplied_wfB (o la : J) (ho : o.wfB = true) (hl : la.wfB = true) : (setLastApplied o la).wfB = true := by
  rw [setLastApplied_eq]
  refine setStringMapAt_wfB o _ _ ho fun kvs e => ?_
  cases e
  exact wfB_setKey _ la _ (getAnnotations_wfB o ho) hl

theorem nullifyLastApplied_wfB (o : J) (ho : o.wfB = true) : (nullifyLastApplied o).wfB = true := by
  unfold nullifyLastApplied
  split
  · exact ho
  · rename_i ann hann
    have hann' : (J.obj ann).wfB = true := by
      have := getAnnotations_wfB o ho
      rw [hann] at this; exact this
    split
    · refine setStringMapAt_wfB o _ _ ho ?_
      intro kvs hk
      split at hk
      · cases hk
      · cases hk; exact wfB_eraseKey _ ann hann'
    · exact ho

theorem applyUpdate_wfB (mks sys : List String) (obs des new : J) (ho : obs.wfB = true) (hd : des.wfB = true)
    (h : applyUpdate mks sys obs des = .ok new) : new.wfB = true := by
  obtain ⟨last, merged, r1, r2, _, hm, h1, h2, rfl⟩ := applyUpdate_inv _ _ _ _ _ h
  have hd' := nullifyLastApplied_wfB des hd
  have hr1 := revertSystemFields_wfB obs ho sys merged r1 (C05_merge_wf mks obs last _ merged ho hd' hm) h1
  exact setLastApplied_wfB r2 _ (revertField_wfB hr1 ho h2) hd'

theorem copyMeta_wfB (keys : List String) (cm : KVs) (hcm : (J.obj cm).wfB = true) : ∀ m : KVs, (J.obj m).wfB = true → (J.obj (copyMeta keys cm m)).wfB = true := by
  unfold copyMeta
  induction keys with
  | nil => intro m h; exact h
  | cons k tl ih =>
    intro m h
    rw [List.foldl_cons]
    apply ih
    cases hl : lookup k cm with
    | none => exact wfB_eraseKey k m h
    | some v => exact wfB_setKey k v m h (wfB_lookup hcm hl)

theorem keepStatus_wfB (cur o : J) (hc : cur.wfB = true) (ho : o.wfB = true) : (keepStatus cur o).wfB = true := by
  unfold keepStatus
  split
  · rename_i st hs
    exact wfB_setKey "status" st _ (wfB_obj_of_fields o ho) (wfB_lookup (wfB_obj_of_fields cur hc) hs)
  · exact wfB_eraseKey "status" _ (wfB_obj_of_fields o ho)

theorem setMeta_wfB {o : J} {k : String} {v : J} (ho : o.wfB = true) (hv : v.wfB = true) : (setMeta o k v).wfB = true :=
  wfB_withMeta o _ ho (wfB_setKey k v _ (wfB_metaOf o ho) hv)

theorem updated_wfB (d : ResDef) (cur body : J) (hc : cur.wfB = true) (hb : body.wfB = true) : (updated d cur body).wfB = true :=
  updated_ind (·.wfB = true) d cur body (wfB_withMeta body _ hb (copyMeta_wfB _ _ (wfB_metaOf cur hc) _ (wfB_metaOf body hb)))
    (fun _ h => keepStatus_wfB _ _ hc h) (fun _ _ h => setMeta_wfB h rfl)

theorem update_post_wfB (d : ResDef) (cur body : J) (f : Fresh) (o' : J) (hc : cur.wfB = true) (hb : body.wfB = true)
    (h : (update d (some cur) body f).post = some o') : o'.wfB = true := by
  rcases update_post_shape d cur body f o' h with e | ⟨x, e⟩
  · rw [e]; exact hc
  · rw [e]
    exact setMeta_wfB (setMeta_wfB (updated_wfB d cur body hc hb) rfl) rfl

/-- C01, in-place update path, without a hypothesis on the stored object: well-formedness of the observed child and of the
    desired child (which `hypS` gives) is enough -/
theorem C01_updated_child_is_settled' (mks sys : List String) (method : String) (d : ResDef) (obs new o' : J) (ds dm : KVs) (f : Fresh)
    (hp : PlainUpdate sys ds dm)
    (ho : hypS mks obs = true) (hd : hypS mks (.obj ds) = true) (hc : coh mks obs (.obj ds) = true)
    (hs : scalarKeys mks obs = true) (hn : noNullOverArr obs (.obj ds) = true)
    (hnew : applyUpdate mks sys obs (.obj ds) = .ok new)
    (hkeep : ∀ k ∈ updateKeep, hasKey k dm = true → lookup k (metaOf obs) = lookup k (metaOf new))
    (hpost : (update d (some obs) new f).post = some o') (hchanged : o' ≠ obs) :
    applyUpdate mks sys o' (.obj ds) = .ok o' ∧ updateAct mks sys method o' (.obj ds) = .none := by
  have hwo : obs.wfB = true := hypJ_wfB (hypS_hypJ ho)
  have hwd : (J.obj ds).wfB = true := hypJ_wfB (hypS_hypJ hd)
  have hwn : new.wfB = true := applyUpdate_wfB mks sys obs (.obj ds) new hwo hwd hnew
  exact C01_updated_child_is_settled mks sys method d obs new o' ds dm f hp ho hd hc hs hn hnew hkeep hpost hchanged
    (update_post_wfB d obs new f o' hwo hwn hpost)

end C01
end Mc
