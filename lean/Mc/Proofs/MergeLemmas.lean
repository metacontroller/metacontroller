import Mc.Merge
import Mc.Proofs.JsonLemmas
/-
  The three-way merge on maps: the equations `merge_obj` (`merge_obj_obj` when the desired value is literally an object), `merge_scalar`; what the fold over the desired fields leaves at
  each key (`mergeFields_spec`; with `prune` resolved `obj_spec`, `mem_merged`); merge fixpoints (`Fix`, `fix_obj_of`).
  Arrays, list-maps and `merge_ok`, the inversion of the whole of `merge`, are in `ListMapLemmas`.
-/
namespace Mc

theorem merge_obj_obj (mks : List String) (o : KVs) (l : Option J) (ds : KVs) :
    merge mks (.obj o) l (.obj ds) = mergeFields mks (prune o (lastObj l) ds) (lastObj l) ds := by
  rw [merge]

/-- a `null` desired value reads as the empty map -/
theorem merge_obj (mks : List String) (os : KVs) (l : Option J) (d : J) :
    merge mks (.obj os) l d =
      if d.isObj || d.isNull then mergeFields mks (prune os (lastObj l) d.fields) (lastObj l) d.fields
      else .error "desired: expecting map" := by
  cases d <;> simp [merge, mergeFields, J.isObj, J.isNull, J.fields]

theorem merge_scalar {mks : List String} {o : J} {l : Option J} {d : J}
    (ho : o.isObj = false) (ha : o.isArr = false) : merge mks o l d = .ok d := by
  cases o <;> simp [J.isObj, J.isArr] at ho ha <;> simp [merge]

theorem lookup_prune (d ls ds : KVs) (k : String) :
    lookup k (prune d ls ds) = if (hasKey k ls && !hasKey k ds) then none else lookup k d := by
  unfold prune
  rw [lookup_filter (fun k => !(hasKey k ls && !hasKey k ds))]
  cases (hasKey k ls && !hasKey k ds) <;> simp

theorem lookup_prune_of_hasKey {d ls ds : KVs} {k : String} (h : hasKey k ds = true) :
    lookup k (prune d ls ds) = lookup k d := by
  rw [lookup_prune]; simp [h]

theorem prune_self (rk ds : KVs) : prune rk ds ds = rk := by
  unfold prune
  apply List.filter_eq_self.mpr
  intro a _
  cases hasKey a.1 ds <;> simp

theorem uniq_prune (d ls ds : KVs) (h : uniq d) : uniq (prune d ls ds) := uniq_filter _ _ h

theorem mergeFields_nil (mks : List String) (d ls : KVs) : mergeFields mks d ls [] = .ok (.obj d) := by
  rw [mergeFields]

theorem mergeFields_cons (mks : List String) (d ls : KVs) (k : String) (v : J) (rest : KVs) :
    mergeFields mks d ls ((k, v) :: rest) =
      match merge mks ((lookup k d).getD .null) (lookup k ls) v with
      | .ok m => mergeFields mks (setKey k m d) ls rest
      | .error e => .error e := by
  rw [mergeFields]
  split <;> simp_all

/-- every desired key ends up holding the merge of the value `d` had there at the start: under `uniq ds` no later step
    of the fold writes that key again -/
theorem mergeFields_spec (mks : List String) (ls : KVs) : ∀ (ds d : KVs) (r : J), uniq ds →
    mergeFields mks d ls ds = .ok r →
    ∃ rk, r = .obj rk ∧
      (∀ k v, (k, v) ∈ ds → ∃ m, lookup k rk = some m ∧
          merge mks ((lookup k d).getD .null) (lookup k ls) v = .ok m) ∧
      (∀ k, lookup k ds = none → lookup k rk = lookup k d) := by
  intro ds
  induction ds with
  | nil =>
    intro d r _ h
    rw [mergeFields_nil] at h
    cases h
    exact ⟨d, rfl, by simp, by simp⟩
  | cons hd tl ih =>
    obtain ⟨k, v⟩ := hd
    intro d r hu h
    rw [mergeFields_cons] at h
    split at h
    · rename_i m hm
      obtain ⟨hk, hu'⟩ := hu
      obtain ⟨rk, hr, h1, h2⟩ := ih _ _ hu' h
      refine ⟨rk, hr, ?_, ?_⟩
      · intro k2 v2 hmem
        simp at hmem
        rcases hmem with ⟨rfl, rfl⟩ | hmem
        · refine ⟨m, ?_, hm⟩
          rw [h2 _ hk, lookup_setKey_same]
        · obtain ⟨m2, hm2, hmm⟩ := h1 _ _ hmem
          have hne : k2 ≠ k := ne_of_hasKey (hasKey_of_mem hmem) ((hasKey_false_iff ..).2 hk)
          rw [lookup_setKey_other _ _ _ _ hne] at hmm
          exact ⟨m2, hm2, hmm⟩
      · intro k2 hk2
        simp only [lookup] at hk2
        split at hk2
        · simp at hk2
        · rename_i hne
          rw [h2 _ hk2, lookup_setKey_other _ _ _ _ hne]
    · simp at h

theorem mergeFields_ok_obj (mks : List String) (ls : KVs) : ∀ (ds d : KVs) (r : J),
    mergeFields mks d ls ds = .ok r → ∃ rk, r = .obj rk := by
  intro ds
  induction ds with
  | nil =>
    intro d r h
    rw [mergeFields_nil] at h
    cases h
    exact ⟨d, rfl⟩
  | cons hd tl ih =>
    obtain ⟨k, v⟩ := hd
    intro d r h
    rw [mergeFields_cons] at h
    split at h
    · exact ih _ _ h
    · cases h

theorem obj_spec {mks : List String} {os ls ds rk : KVs} (hu : uniq ds)
    (h : mergeFields mks (prune os ls ds) ls ds = .ok (.obj rk)) :
    (∀ k v, (k, v) ∈ ds → ∃ m, lookup k rk = some m ∧
        merge mks ((lookup k os).getD .null) (lookup k ls) v = .ok m) ∧
    (∀ k, lookup k ds = none → lookup k rk = if hasKey k ls then none else lookup k os) := by
  obtain ⟨rk', hr, h1, h2⟩ := mergeFields_spec mks ls ds _ _ hu h
  cases hr
  constructor
  · intro k v hm
    have := h1 k v hm
    rwa [lookup_prune_of_hasKey (hasKey_of_mem hm)] at this
  · intro k hk
    rw [h2 k hk, lookup_prune, (hasKey_false_iff _ _).mpr hk]
    simp

theorem mergeFields_hasKey (mks : List String) (ls ds d rk : KVs) (hu : uniq ds)
    (h : mergeFields mks d ls ds = .ok (.obj rk)) (k : String) :
    hasKey k rk = (hasKey k d || hasKey k ds) := by
  obtain ⟨rk', hr, h1, h2⟩ := mergeFields_spec mks ls ds d _ hu h
  cases hr
  cases hd : lookup k ds with
  | none => simp [hasKey, h2 k hd, hd]
  | some v =>
    obtain ⟨m, hm, _⟩ := h1 k v (lookup_mem _ _ _ hd)
    simp [hasKey, hm, hd]

theorem mergeFields_uniq (mks : List String) (ls : KVs) : ∀ (ds d rk : KVs), uniq d →
    mergeFields mks d ls ds = .ok (.obj rk) → uniq rk := by
  intro ds
  induction ds with
  | nil => intro d rk hu h; rw [mergeFields_nil] at h; cases h; exact hu
  | cons hd tl ih =>
    obtain ⟨k, v⟩ := hd
    intro d rk hu h
    rw [mergeFields_cons] at h
    split at h
    · exact ih _ _ (uniq_setKey _ _ _ hu) h
    · simp at h

theorem mem_merged {mks : List String} {os ls ds rk : KVs} (hu : uniq ds) (huo : uniq os)
    (h : mergeFields mks (prune os ls ds) ls ds = .ok (.obj rk)) :
    uniq rk ∧ ∀ k v, (k, v) ∈ rk →
      (∃ dv, (k, dv) ∈ ds ∧ merge mks ((lookup k os).getD .null) (lookup k ls) dv = .ok v) ∨ (k, v) ∈ os := by
  obtain ⟨h1, h2⟩ := obj_spec hu h
  have hur := mergeFields_uniq mks _ _ _ rk (uniq_prune _ _ _ huo) h
  refine ⟨hur, fun k v hm => ?_⟩
  have hlk := lookup_of_mem_uniq _ _ _ hur hm
  cases hdk : lookup k ds with
  | some dv =>
    have hmd := lookup_mem _ _ _ hdk
    obtain ⟨m, hm1, hm2⟩ := h1 k dv hmd
    rw [hlk] at hm1
    cases hm1
    exact .inl ⟨dv, hmd, hm2⟩
  | none =>
    rw [h2 k hdk] at hlk
    split at hlk
    · cases hlk
    · exact .inr (lookup_mem _ _ _ hlk)

/-- the desired fields `ds` are kept apart from last-applied `all` (`fix_obj_of` takes `ds = all`): the induction is over
    `ds` alone -/
theorem mergeFields_fix (mks : List String) (all rk : KVs) : ∀ (ds : KVs),
    (∀ k v, (k, v) ∈ ds → ∃ m, lookup k rk = some m ∧ merge mks m (lookup k all) v = .ok m) →
    mergeFields mks rk all ds = .ok (.obj rk) := by
  intro ds
  induction ds with
  | nil => intro _; rw [mergeFields_nil]
  | cons hd tl ih =>
    obtain ⟨k, v⟩ := hd
    intro h
    obtain ⟨m, hlk, hm⟩ := h k v (by simp)
    rw [mergeFields_cons, hlk]
    simp only [Option.getD_some]
    rw [hm]
    simp only
    rw [setKey_id _ _ _ hlk]
    exact ih (fun k2 v2 hmem => h k2 v2 (by simp [hmem]))

/-- `x` is left alone by a merge with `d` as last-applied and desired -/
def Fix (mks : List String) (d x : J) : Prop := merge mks x (some d) d = .ok x

theorem fix_obj_of {mks : List String} {xs : KVs} {d : J} (hk : (d.isObj || d.isNull) = true) (hu : uniq d.fields)
    (h : ∀ k v, (k, v) ∈ d.fields → ∃ m, lookup k xs = some m ∧ Fix mks v m) : Fix mks d (.obj xs) := by
  have hl : lastObj (some d) = d.fields := by
    cases d with
    | obj ds => rfl
    | null => rfl
    | _ => cases hk
  rw [Fix, merge_obj, if_pos hk, hl, prune_self]
  refine mergeFields_fix mks _ xs _ fun k v hm => ?_
  obtain ⟨m, hlk, hf⟩ := h k v hm
  refine ⟨m, hlk, ?_⟩
  rw [lookup_of_mem_uniq _ _ _ hu hm]
  exact hf

theorem mergeFields_error (mks : List String) (ls : KVs) : ∀ (ds d : KVs) (k : String) (v : J), uniq ds →
    (k, v) ∈ ds → (∃ e, merge mks ((lookup k d).getD .null) (lookup k ls) v = .error e) →
    ∃ e, mergeFields mks d ls ds = .error e := by
  intro ds
  induction ds with
  | nil => intro d k v _ hm; simp at hm
  | cons hd tl ih =>
    obtain ⟨k0, v0⟩ := hd
    intro d k v hu hm he
    obtain ⟨hk0, hu'⟩ := hu
    rw [mergeFields_cons]
    simp at hm
    rcases hm with ⟨rfl, rfl⟩ | hm
    · obtain ⟨e, he⟩ := he
      rw [he]; exact ⟨e, rfl⟩
    · cases hmm : merge mks ((lookup k0 d).getD .null) (lookup k0 ls) v0 with
      | error e => exact ⟨e, rfl⟩
      | ok m =>
        simp only
        apply ih _ k v hu' hm
        have hne : k ≠ k0 := ne_of_hasKey (hasKey_of_mem hm) ((hasKey_false_iff ..).2 hk0)
        rw [lookup_setKey_other _ _ _ _ hne]; exact he

end Mc
