import Mc.Proofs.ProgLemmas
import Mc.Spec.ReqClass
/-
  The read-modify-write loop `atomicLoop`: one round as a flat equation (`atomicLoop_succ`) and by its shape
  (`atomicLoop_round`), whence the write discipline, the exact footprint over `RmwReq`, the bound and the halting lemma;
  the claim logic built on it (`canAdopt`, `claimOne`, `claimAll`): footprint over `ClaimOneReq`, halting on hard errors.
  Before them: the request classes of `Spec/ReqClass` on the requests the syncs build.
-/
namespace Mc
open Prog

theorem Target.beq_self (t : Target) : (t == t) = true := by
  cases t
  simp [BEq.beq, instBEqTarget.beq]

section Classes
variable (v : Verb) (t pt : Target) (b o : J) (n : String) (q : J) (ns name : String)

theorem Req.onTarget_self : (Req.api v t b o).onTarget t = true := by
  simp [Req.onTarget, Req.target?, Target.beq_self]

theorem Req.isRevision_revTarget : (Req.api v (revTarget ns name) b o).isRevision = true := by
  simp [Req.isRevision, Req.target?, revTarget]

theorem Req.isChild_hook : (Req.hook n q).isChild pt = false := by
  simp [Req.isChild, Req.isHook]

theorem Req.isChild_self : (Req.api v pt b o).isChild pt = false := by
  simp [Req.isChild, Req.onTarget_self]

theorem Req.isChild_revTarget : (Req.api v (revTarget ns name) b o).isChild pt = false := by
  simp [Req.isChild, Req.isRevision_revTarget]

theorem Req.isWrite_get : (Req.api .get t b o).isWrite = false := rfl

theorem Req.isRevWrite_hook : (Req.hook n q).isRevWrite = false := by
  simp [Req.isRevWrite, Req.isRevision, Req.target?]

theorem Req.isRevWrite_get : (Req.api .get t b o).isRevWrite = false := by
  simp [Req.isRevWrite, Req.isWrite, Req.verb?, Verb.isWrite]

theorem Req.isRevWrite_of_not_rev (h : ¬ (t.group = revGroup ∧ t.resource = revResource)) :
    (Req.api v t b o).isRevWrite = false := by
  simp only [Req.isRevWrite, Req.isRevision, Req.target?]
  cases hg : t.group == revGroup <;> cases hr : t.resource == revResource <;> simp_all

theorem Req.isChildMutation_of_verb (h : v = .get ∨ v = .update ∨ v = .updateStatus) :
    (Req.api v t b o).isChildMutation pt = false := by
  rcases h with rfl | rfl | rfl <;>
  · simp only [Req.isChildMutation, Req.verb?]
    cases Req.isChild pt _ <;> rfl

theorem Req.isChildMutation_of_not_child (r : Req) (h : r.isChild pt = false) : r.isChildMutation pt = false := by
  simp [Req.isChildMutation, h]

theorem Req.isChildWrite_of_not_child (r : Req) (h : r.isChild pt = false) : r.isChildWrite pt = false := by
  simp [Req.isChildWrite, h]

theorem Req.isChildCreate_of_not_child (r : Req) (h : r.isChild pt = false) : r.isChildCreate pt = false := by
  simp [Req.isChildCreate, h]

theorem Req.isChildWrite_get : (Req.api .get t b o).isChildWrite pt = false := by
  simp [Req.isChildWrite, Req.isWrite, Req.verb?, Verb.isWrite]
end Classes

/-- requests of a read-modify-write loop: GETs of the target, and writes of an edit of an object that was
    just read and has the expected UID -/
def RmwReq (t : Target) (uid : String) (f : J → Option J) (verb : Verb) (r : Req) : Prop :=
  r = .api .get t .null .null ∨ ∃ cur upd, getUID cur = uid ∧ f cur = some upd ∧ r = .api verb t upd .null

theorem RmwReq.elim {P : Req → Prop} {t : Target} {uid : String} {f : J → Option J} {verb : Verb} {r : Req}
    (hg : P (.api .get t .null .null)) (hp : ∀ b, P (.api verb t b .null)) (h : RmwReq t uid f verb r) : P r := by
  rcases h with rfl | ⟨_, _, _, _, rfl⟩
  · exact hg
  · exact hp _

section Atomic
variable (t : Target) (uid : String) (f : J → Option J) (verb : Verb) (gone : String)

/-- one round of the loop, with the monad operations evaluated -/
theorem atomicLoop_succ (n : Nat) : atomicLoop t uid f verb gone (n + 1) =
    .call (.api .get t .null .null) fun r => match r with
      | .obj cur =>
        if getUID cur != uid then .ret (.error gone)
        else match f cur with
          | none => .ret (.ok cur)
          | some upd => .call (.api verb t upd .null) fun r2 => match r2 with
            | .obj res => .ret (.ok res)
            | .err "Conflict" => if n == 0 then .ret (.error "Conflict") else atomicLoop t uid f verb gone n
            | .err e => .ret (.error e)
            | _ => .ret (.error "unexpected response")
      | .err e => .ret (.error e)
      | _ => .ret (.error "unexpected response") :=
  rfl

/-- the shape of a round, which the proofs below go by: a GET, then a leaf, or - the GET having answered an object `cur`
    of the expected UID with `f cur = some upd` - the write of `upd` followed by a leaf or the rest of the loop -/
theorem atomicLoop_round (n : Nat) :
    ∃ k, atomicLoop t uid f verb gone (n + 1) = .call (.api .get t .null .null) k ∧
      ∀ x, (∃ a, k x = .ret a) ∨ ∃ cur upd k2, x = .obj cur ∧ getUID cur = uid ∧ f cur = some upd ∧
        k x = .call (.api verb t upd .null) k2 ∧
        ∀ y, (∃ a, k2 y = .ret a) ∨ k2 y = atomicLoop t uid f verb gone n := by
  rw [atomicLoop_succ]
  refine ⟨_, rfl, fun x => ?_⟩
  split
  · rename_i cur
    split
    · exact .inl ⟨_, rfl⟩
    · rename_i hu
      split
      · exact .inl ⟨_, rfl⟩
      · rename_i upd hf
        refine .inr ⟨cur, upd, _, rfl, by simpa using hu, hf, rfl, fun y => ?_⟩
        split
        · exact .inl ⟨_, rfl⟩
        · split
          · exact .inl ⟨_, rfl⟩
          · exact .inr rfl
        · exact .inl ⟨_, rfl⟩
        · exact .inl ⟨_, rfl⟩
  · exact .inl ⟨_, rfl⟩
  · exact .inl ⟨_, rfl⟩

theorem atomicLoop_writesFollow {W : Req → Prop} (hg : ¬ W (.api .get t .null .null)) :
    ∀ n (s : Option Resp), WritesFollow W
      (fun x r => ∃ cur upd, x = .obj cur ∧ getUID cur = uid ∧ f cur = some upd ∧ r = .api verb t upd .null)
      s (atomicLoop t uid f verb gone n)
  | 0, _ => .ret _ _
  | n + 1, s => by
    obtain ⟨k, h, hk⟩ := atomicLoop_round t uid f verb gone n
    rw [h]
    refine .read _ _ _ hg (fun x => ?_)
    rcases hk x with ⟨a, ha⟩ | ⟨cur, upd, k2, rfl, hu, hf, h1, h2⟩
    · rw [ha]
      exact .ret _ _
    · rw [h1]
      refine .write _ _ _ ⟨cur, upd, rfl, hu, hf, rfl⟩ (fun y => ?_)
      rcases h2 y with ⟨a, ha⟩ | ha
      · rw [ha]
        exact .ret _ _
      · rw [ha]
        exact atomicLoop_writesFollow hg n none

theorem atomicLoop_calls :
    ∀ n, AllCalls (RmwReq t uid f verb) (atomicLoop t uid f verb gone n) := by
  intro n
  refine (atomicLoop_writesFollow t uid f verb gone (W := fun r => r ≠ .api .get t .null .null)
    (fun h => h rfl) n none).allCalls.mono ?_
  rintro r (h | ⟨x, cur, upd, _, hu, hf, rfl⟩)
  · exact .inl (Classical.not_not.mp h)
  · exact .inr ⟨cur, upd, hu, hf, rfl⟩

/-- the footprint in the form the phases use it: `P` on the GET and on every write of the target -/
theorem atomicLoop_calls_of {P : Req → Prop} (hg : P (.api .get t .null .null)) (hp : ∀ b, P (.api verb t b .null)) (n : Nat) :
    AllCalls P (atomicLoop t uid f verb gone n) :=
  (atomicLoop_calls t uid f verb gone n).mono (fun _ => RmwReq.elim hg hp)

/-- of the two requests of a round one does not count (`hq`), so `n` rounds issue at most `n` that do -/
theorem atomicLoop_atMost {Q : Req → Prop} (hq : ¬ Q (.api .get t .null .null) ∨ ∀ b, ¬ Q (.api verb t b .null)) :
    ∀ n, AtMost Q n (atomicLoop t uid f verb gone n)
  | 0 => .ret _ _
  | n + 1 => by
    obtain ⟨k, h, hk⟩ := atomicLoop_round t uid f verb gone n
    rw [h]
    have ih := atomicLoop_atMost hq n
    rcases hq with hg | hp
    · refine .callN _ _ _ hg (fun x => ?_)
      rcases hk x with ⟨a, ha⟩ | ⟨cur, upd, k2, _, _, _, h1, h2⟩
      · rw [ha]
        exact .ret _ _
      · rw [h1]
        refine .callQ _ _ _ (fun y => ?_)
        rcases h2 y with ⟨a, ha⟩ | ha
        · rw [ha]
          exact .ret _ _
        · rw [ha]
          exact ih
    · refine .callQ _ _ _ (fun x => ?_)
      rcases hk x with ⟨a, ha⟩ | ⟨cur, upd, k2, _, _, _, h1, h2⟩
      · rw [ha]
        exact .ret _ _
      · rw [h1]
        refine .callN _ _ _ (hp _) (fun y => ?_)
        rcases h2 y with ⟨a, ha⟩ | ha
        · rw [ha]
          exact .ret _ _
        · rw [ha]
          exact ih

/-- an error answer `e` - other than a Conflict answering the write, which is retried - ends the loop: nothing more is
    issued, and the loop returns an error satisfying `K` -/
theorem atomicLoop_halts {G : Req → Resp → Prop} {Q : Req → Prop} (K : String → Prop)
    (hG : ∀ r x, G r x → ∃ e, x = .err e ∧ K e ∧ (e = "Conflict" → ∀ b, r ≠ .api verb t b .null)) :
    ∀ n, StopsAfter G Q (fun res => ∃ e, res = .error e ∧ K e) (atomicLoop t uid f verb gone n)
  | 0 => .ret _
  | n + 1 => by
    rw [atomicLoop_succ]
    refine .call _ _ (fun x hx => ?_) (fun x => ?_)
    · obtain ⟨e, rfl, hk, _⟩ := hG _ _ hx
      exact ⟨.ret _, .ret _ ⟨e, rfl, hk⟩⟩
    · split
      · split
        · exact .ret _
        · split
          · exact .ret _
          · refine .call _ _ (fun y hy => ?_) (fun y => ?_)
            · obtain ⟨e, rfl, hk, hc⟩ := hG _ _ hy
              -- not a Conflict, so the match takes the arm that hands the error back
              have hne : e ≠ "Conflict" := fun h => hc h _ rfl
              simp only []
              exact ⟨.ret _, .ret _ ⟨e, rfl, hk⟩⟩
            · split
              · exact .ret _
              · split
                · exact .ret _
                · exact atomicLoop_halts K hG n
              · exact .ret _
              · exact .ret _
      · exact .ret _
      · exact .ret _

/-- the loop followed by a continuation `K`, when (1) "nothing to do" answers and accepted writes count as
    guards and (2) `K` is harmless on errors: no `Q` request before a guard -/
theorem atomicLoop_guarded_bind {β : Type} {G : Req → Resp → Prop} {Q : Req → Prop} (K : Except String J → Prog β)
    (hgq : ¬ Q (.api .get t .null .null)) (hpq : ∀ b, ¬ Q (.api verb t b .null))
    (hnone : ∀ cur, getUID cur = uid → f cur = none → G (.api .get t .null .null) (.obj cur))
    (hok : ∀ cur upd res, getUID cur = uid → f cur = some upd → G (.api verb t upd .null) (.obj res))
    (hK : ∀ e, Guarded G Q (K (.error e))) :
    ∀ n, Guarded G Q ((atomicLoop t uid f verb gone n).bind K)
  | 0 => hK _
  | n + 1 => by
    rw [atomicLoop_succ]
    refine .call _ _ hgq (fun x hx => ?_)
    dsimp only
    split
    · rename_i cur
      split
      · exact hK _
      · rename_i hu
        have hu' : getUID cur = uid := by simpa using hu
        split
        · rename_i hf; exact (hx (hnone cur hu' hf)).elim
        · rename_i upd hf
          refine .call _ _ (hpq _) (fun y hy => ?_)
          dsimp only
          split
          · rename_i res; exact (hy (hok cur upd res hu' hf)).elim
          · split
            · exact hK _
            · exact atomicLoop_guarded_bind K hgq hpq hnone hok hK n
          · exact hK _
          · exact hK _
    · exact hK _
    · exact hK _
end Atomic

/-- `finalizer.Manager.SyncObject` does nothing, or is one read-modify-write loop on the object -/
theorem Finalizer.syncObject_cases (fz : Finalizer) (t : Target) (obj : J) :
    fz.syncObject t obj = .ret (.ok obj) ∨
    ∃ f, fz.syncObject t obj = atomicLoop t (getUID obj) f .update "NotFound" retrySteps := by
  unfold Finalizer.syncObject
  by_cases h1 : (hasFinalizer obj fz.name == fz.enabled) = true
  · exact .inl (if_pos h1)
  rw [if_neg h1]
  by_cases h2 : fz.enabled = true
  · rw [if_pos h2]
    by_cases h3 : isDeleting obj = true
    · exact .inl (if_pos h3)
    · exact .inr ⟨_, if_neg h3⟩
  · exact .inr ⟨_, if_neg h2⟩

theorem Finalizer.syncObject_add (fz : Finalizer) (t : Target) (obj : J)
    (he : fz.enabled = true) (hn : hasFinalizer obj fz.name = false) (hd : isDeleting obj = false) :
    fz.syncObject t obj = atomicLoop t (getUID obj) (addFinalizerEdit fz.name) .update "NotFound" retrySteps := by
  simp [Finalizer.syncObject, hn, he, hd, atomicUpdate]

/-- the decision `claimOne` takes for an object -/
def ClaimCtx.decision (cx : ClaimCtx) (o : J) : ClaimAct :=
  claimDecision (getUID cx.parent) (isDeleting cx.parent) (cx.selector.matches (labelsOf o)) o

def ClaimOneReq (cx : ClaimCtx) (o : J) (r : Req) : Prop :=
  (cx.decision o = .adopt ∧ r = .api .get cx.parentT .null .null) ∨
  (cx.decision o = .adopt ∧ RmwReq (cx.childT o) (getUID o)
      (fun cur => some (cx.setRefs cur (addOwnerReference (getOwnerRefs cur) cx.parentRef))) .update r) ∨
  (cx.decision o = .release ∧ RmwReq (cx.childT o) (getUID o)
      (fun cur => some (cx.setRefs cur (removeOwnerReference (getOwnerRefs cur) (getUID cx.parent)))) .update r)

theorem ClaimOneReq.elim {P : Req → Prop} {cx : ClaimCtx} {o : J} {r : Req}
    (hpar : P (.api .get cx.parentT .null .null)) (hget : P (.api .get (cx.childT o) .null .null))
    (hput : ∀ b, P (.api .update (cx.childT o) b .null)) (h : ClaimOneReq cx o r) : P r := by
  rcases h with ⟨_, rfl⟩ | ⟨_, h⟩ | ⟨_, h⟩
  · exact hpar
  · exact h.elim hget hput
  · exact h.elim hget hput

theorem canAdopt_calls (parentT : Target) (parent : J) (st : AdoptState) :
    AllCalls (fun r => r = .api .get parentT .null .null) (canAdopt parentT parent st) := by
  unfold canAdopt
  cases st with
  | some r => exact .ret _
  | none => exact AllCalls.bind (AllCalls.request rfl) (fun _ => .ret _)

theorem claimOne_calls (cx : ClaimCtx) (o : J) (st : AdoptState) :
    AllCalls (ClaimOneReq cx o) (claimOne cx o st) := by
  unfold claimOne
  cases hd : claimDecision (getUID cx.parent) (isDeleting cx.parent) (cx.selector.matches (labelsOf o)) o with
  | ignore => exact .ret _
  | keep => exact .ret _
  | release =>
    simp only []
    refine ite_ind (fun _ => ?_) (fun _ => ?_)
    · refine AllCalls.bind (.ret _) ?_
      intro r; split <;> exact .ret _
    · refine AllCalls.bind (AllCalls.mono (fun r h => Or.inr (Or.inr ⟨hd, h⟩)) (atomicLoop_calls ..)) ?_
      intro r; split <;> exact .ret _
  | adopt =>
    simp only []
    refine AllCalls.bind (AllCalls.mono (fun r h => Or.inl ⟨hd, h⟩) (canAdopt_calls ..)) ?_
    rintro ⟨ok, st'⟩
    cases ok with
    | error e => exact .ret _
    | ok u =>
      simp only []
      refine ite_ind (fun _ => ?_) (fun _ => ?_)
      · refine AllCalls.bind (.ret _) ?_
        intro r; split <;> exact .ret _
      · refine AllCalls.bind (AllCalls.mono (fun r h => Or.inr (Or.inl ⟨hd, h⟩)) (atomicLoop_calls ..)) ?_
        intro r; split <;> exact .ret _

theorem claimAll_calls (cx : ClaimCtx) : ∀ (objs : List J) (st : AdoptState),
    AllCalls (fun r => ∃ o ∈ objs, ClaimOneReq cx o r) (claimAll cx objs st) := by
  intro objs
  induction objs with
  | nil => intro st; exact .ret _
  | cons o rest ih =>
    intro st
    rw [claimAll]
    refine AllCalls.bind (AllCalls.mono (fun r h => ⟨o, List.mem_cons_self .., h⟩) (claimOne_calls cx o st)) ?_
    rintro ⟨⟨ok, err⟩, st'⟩
    refine AllCalls.bind (AllCalls.mono (fun r ⟨o', ho', h⟩ => ⟨o', List.mem_cons_of_mem _ ho', h⟩) (ih st')) ?_
    rintro ⟨claimed, errs⟩
    exact .ret _

-- a hard error during the claims is reported, never swallowed

/-- an error that the claim logic does not swallow and the retry loop does not retry -/
def HardErr (x : Resp) : Prop := ∃ e, x = .err e ∧ e ≠ "NotFound" ∧ e ≠ "Gone" ∧ e ≠ "Conflict"

section HardHalt
variable {G : Req → Resp → Prop} {Q : Req → Prop}

theorem claimOne_hardHalts (cx : ClaimCtx) (obj : J) (st : AdoptState)
    (hG : ∀ r x, G r x → HardErr x ∧ r.isWrite = true) :
    StopsAfter G Q (fun res => res.1.2 ≠ none) (claimOne cx obj st) := by
  -- a hard error on a request of the loop ends it with an error other than NotFound / Gone
  have hloop : ∀ f, StopsAfter G Q (fun r => ∃ e, r = .error e ∧ e ≠ "NotFound" ∧ e ≠ "Gone")
      (atomicLoop (cx.childT obj) (getUID obj) f .update cx.goneReason retrySteps) := by
    intro f
    refine atomicLoop_halts _ _ f _ _ (fun e => e ≠ "NotFound" ∧ e ≠ "Gone") (fun r x h => ?_) _
    obtain ⟨e, rfl, h1, h2, h3⟩ := (hG r x h).1
    exact ⟨e, rfl, ⟨h1, h2⟩, fun hc => absurd hc h3⟩
  unfold claimOne
  split
  · exact .ret _
  · exact .ret _
  · dsimp only
    split
    · exact .ret _
    · refine StopsAfter.bind (hloop _) (fun r => ?_) (fun r hr => ?_)
      · split <;> exact .ret _
      · obtain ⟨e, rfl, h1, h2⟩ := hr
        -- `simp` finds `h1`, `h2` in the context: the match takes its last arm
        simp only []
        exact ⟨.ret _, .ret _ (by simp)⟩
  · -- adopt: the GET of the parent is not a write, so no `G` pair there
    refine StopsAfter.bind_noG ((canAdopt_calls ..).mono ?_) (fun a => ?_)
    · rintro _ rfl x hx
      cases (Req.isWrite_get ..).symm.trans (hG _ _ hx).2
    · obtain ⟨ok, st'⟩ := a
      dsimp only
      split
      · exact .ret _
      · split
        · exact .ret _
        · refine StopsAfter.bind (hloop _) (fun r => ?_) (fun r hr => ?_)
          · split <;> exact .ret _
          · obtain ⟨e, rfl, h1, _⟩ := hr
            -- by `h1`, as above
            simp only []
            exact ⟨.ret _, .ret _ (by simp)⟩

theorem claimAll_hardHalts (cx : ClaimCtx)
    (hG : ∀ r x, G r x → HardErr x ∧ r.isWrite = true)
    (hQg : ∀ t, ¬ Q (.api .get t .null .null)) (hQu : ∀ o b, ¬ Q (.api .update (cx.childT o) b .null)) :
    ∀ (objs : List J) (st : AdoptState), StopsAfter G Q (fun res => res.2 ≠ []) (claimAll cx objs st)
  | [], _ => .ret _
  | o :: rest, st => by
    have hfoot : ∀ st', NoQ Q (claimAll cx rest st') := fun st' =>
      (claimAll_calls cx rest st').mono (fun _ ⟨o', _, h⟩ => h.elim (P := fun r => ¬ Q r) (hQg _) (hQg _) (hQu o'))
    unfold claimAll
    refine StopsAfter.bind (claimOne_hardHalts cx o st hG) (fun a => ?_) (fun a ha => ?_)
    · obtain ⟨⟨ok, err⟩, st'⟩ := a
      refine StopsAfter.bind (claimAll_hardHalts cx hG hQg hQu rest st') (fun b => .ret _) (fun b hb => ?_)
      obtain ⟨claimed, errs⟩ := b
      refine ⟨.ret _, .ret _ ?_⟩
      dsimp only at hb ⊢
      cases err <;> simp [hb]
    · obtain ⟨⟨ok, err⟩, st'⟩ := a
      dsimp only at ha
      refine ⟨AllCalls.bind (hfoot st') (fun _ => .ret _), AllRets.bind (AllRets.trivial _) (fun b _ => .ret _ ?_)⟩
      obtain ⟨claimed, errs⟩ := b
      cases err with
      | none => exact (ha rfl).elim
      | some e => simp

end HardHalt

end Mc
