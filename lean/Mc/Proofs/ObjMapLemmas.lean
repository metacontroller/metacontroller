import Mc.Sync.Types
import Mc.Proofs.JsonLemmas
/-
  `ObjMap` (the Go maps `group → name → object` handed to hooks): group keys (`hasGroup`), membership (`list`) and point
  lookups (`at`) through `initGroup` and `put`. `insertUniform` and `insertRelative` are `put` with a key and a name
  function, `addGroup` and `convert` folds of them: their facts are instances of the `foldl_put` lemmas.
-/
namespace Mc

theorem GVK.beq_def (a b : GVK) :
    (a == b) = (a.group == b.group && (a.version == b.version && a.kind == b.kind)) := by
  cases a; cases b; simp [BEq.beq, instBEqGVK.beq]

instance : LawfulBEq GVK where
  eq_of_beq {a b} h := by
    rw [GVK.beq_def] at h
    cases a; cases b; simp at h; simp [h]
  rfl {a} := by rw [GVK.beq_def]; simp

def ObjMap.hasGroup (m : ObjMap) (k : GVK) : Bool := m.any (·.1 == k)

def ObjMap.at (m : ObjMap) (k : GVK) (n : String) : Option J := (m.group k).lookup n

theorem putName_eq_setKey (n : String) (o : J) (l : List (String × J)) : putName n o l = setKey n o l := by
  induction l with
  | nil => rfl
  | cons hd tl ih =>
    by_cases h : n = hd.1
    · simp [putName, setKey, h]
    · simp [putName, setKey, h, Ne.symm h, ih]

theorem lookup_putName (n : String) (o : J) (l : List (String × J)) (n' : String) :
    (putName n o l).lookup n' = if n' = n then some o else l.lookup n' := by
  rw [putName_eq_setKey, slookup_eq_lookup, slookup_eq_lookup, lookup_setKey]

theorem mem_putName {n : String} {o : J} {l : List (String × J)} {e : String × J}
    (h : e ∈ putName n o l) : e = (n, o) ∨ e ∈ l :=
  mem_setKey n o l e.1 e.2 (putName_eq_setKey n o l ▸ h)

theorem hasGroup_initGroup (m : ObjMap) (k k' : GVK) :
    (m.initGroup k).hasGroup k' = (m.hasGroup k' || k' == k) := by
  unfold ObjMap.initGroup ObjMap.hasGroup
  by_cases h : m.any (·.1 == k) = true
  · simp only [h, if_true]
    by_cases e : k' = k
    · subst e; simp [h]
    · simp [e]
  · simp only [h]
    simp [List.any_append, BEq.comm (a := k)]

theorem hasGroup_put (m : ObjMap) (k k' : GVK) (n : String) (o : J) :
    (m.put k n o).hasGroup k' = (m.hasGroup k' || k' == k) := by
  rw [← hasGroup_initGroup]
  unfold ObjMap.put ObjMap.hasGroup
  simp only [List.any_map]
  congr 1
  funext g
  simp only [Function.comp]
  split <;> rfl

theorem hasGroup_foldl_put (key : J → GVK) (name : J → String) (k : GVK) (objs : List J) (m : ObjMap)
    (h : m.hasGroup k = true) : (objs.foldl (fun acc o => acc.put (key o) (name o) o) m).hasGroup k = true := by
  refine foldl_of_step _ (·.hasGroup k = true) (fun _ => False) objs m (fun o _ b hb => ?_) (.inl h)
  rw [hasGroup_put, hb.resolve_right id]
  rfl

-- soundness: nothing is in the map that was not inserted

theorem list_initGroup (m : ObjMap) (k : GVK) : (m.initGroup k).list = m.list := by
  unfold ObjMap.initGroup ObjMap.list
  split
  · rfl
  · simp

theorem mem_list_iff (m : ObjMap) (o : J) : o ∈ m.list ↔ ∃ g ∈ m, ∃ e ∈ g.2, e.2 = o := by
  unfold ObjMap.list
  simp only [List.mem_flatMap, List.mem_map]

theorem mem_list_put {m : ObjMap} {k : GVK} {n : String} {o x : J} (h : x ∈ (m.put k n o).list) :
    x = o ∨ x ∈ m.list := by
  rw [← list_initGroup m k]
  unfold ObjMap.put at h
  rw [mem_list_iff] at h
  obtain ⟨g, hg, e, he, rfl⟩ := h
  simp only [List.mem_map] at hg
  obtain ⟨g0, hg0, rfl⟩ := hg
  by_cases hk : (g0.1 == k) = true
  · simp only [hk, if_true] at he
    rcases mem_putName he with rfl | he
    · exact Or.inl rfl
    · exact Or.inr ((mem_list_iff _ _).2 ⟨g0, hg0, e, he, rfl⟩)
  · simp only [hk] at he
    exact Or.inr ((mem_list_iff _ _).2 ⟨g0, hg0, e, he, rfl⟩)

theorem mem_list_foldl_put (key : J → GVK) (name : J → String) {x : J} : ∀ {objs : List J} {m : ObjMap},
    x ∈ (objs.foldl (fun acc o => acc.put (key o) (name o) o) m).list → x ∈ m.list ∨ x ∈ objs := by
  intro objs
  induction objs with
  | nil => intro m h; exact Or.inl h
  | cons a rest ih =>
    intro m h
    rcases ih h with h | h
    · rcases mem_list_put h with rfl | h
      · exact Or.inr List.mem_cons_self
      · exact Or.inl h
    · exact Or.inr (List.mem_cons_of_mem _ h)

-- completeness: what was inserted under a key is found there

theorem group_initGroup (m : ObjMap) (k k' : GVK) : (m.initGroup k).group k' = m.group k' := by
  unfold ObjMap.initGroup
  by_cases h : m.any (·.1 == k) = true
  · simp [h]
  · simp only [h]
    unfold ObjMap.group
    simp only [Bool.false_eq_true, if_false]
    rw [List.find?_append]
    cases hf : m.find? (·.1 == k') with
    | some g => simp
    | none =>
      by_cases e : k = k'
      · simp [e]
      · simp [e]

theorem find?_initGroup_self (m : ObjMap) (k : GVK) :
    ∃ g, (m.initGroup k).find? (·.1 == k) = some g ∧ g.1 = k := by
  have h : (m.initGroup k).hasGroup k = true := by rw [hasGroup_initGroup]; simp
  obtain ⟨g, hg⟩ := Option.isSome_iff_exists.1 (List.find?_isSome.2 (List.any_eq_true.1 h))
  exact ⟨g, hg, by simpa using List.find?_some hg⟩

theorem group_put (m : ObjMap) (k k' : GVK) (n : String) (o : J) :
    (m.put k n o).group k' = if k' = k then putName n o (m.group k) else m.group k' := by
  rw [← group_initGroup m k k, ← group_initGroup m k k']
  unfold ObjMap.put ObjMap.group
  simp only []
  rw [List.find?_map]
  have hcomp : ((fun x : GVK × List (String × J) => x.1 == k') ∘
      (fun g : GVK × List (String × J) => if (g.1 == k) = true then (g.1, putName n o g.2) else g)) =
      (fun x => x.1 == k') := by
    funext g
    simp only [Function.comp]
    split <;> rfl
  rw [hcomp]
  by_cases e : k' = k
  · subst e
    obtain ⟨g, hg, hgk⟩ := find?_initGroup_self m k'
    simp [hg, hgk]
  · simp only [e, if_false]
    cases hf : (m.initGroup k).find? (·.1 == k') with
    | none => rfl
    | some g =>
      have : g.1 = k' := by simpa using List.find?_some hf
      have hne : ¬ g.1 = k := by rw [this]; exact e
      simp [hne]

theorem at_initGroup (m : ObjMap) (k k' : GVK) (n : String) : (m.initGroup k).at k' n = m.at k' n := by
  unfold ObjMap.at; rw [group_initGroup]

theorem at_put (m : ObjMap) (k k' : GVK) (n n' : String) (o : J) :
    (m.put k n o).at k' n' = if k' = k ∧ n' = n then some o else m.at k' n' := by
  unfold ObjMap.at
  rw [group_put]
  by_cases e : k' = k
  · subst e
    simp only [if_true, true_and]
    exact lookup_putName ..
  · simp [e]

theorem mem_list_of_at {m : ObjMap} {k : GVK} {n : String} {o : J} (h : m.at k n = some o) : o ∈ m.list := by
  unfold ObjMap.at ObjMap.group at h
  cases hf : m.find? (·.1 == k) with
  | none => simp [hf] at h
  | some g =>
    simp only [hf] at h
    exact (mem_list_iff _ _).2 ⟨g, List.mem_of_find?_eq_some hf, (n, o), mem_of_lookup_eq_some h, rfl⟩

/-- folding insertions: an element whose key is not reused by a *different* element stays findable -/
theorem at_foldl_put (key : J → GVK) (name : J → String) (o : J) (objs : List J) (m : ObjMap)
    (hinj : ∀ x ∈ objs, key x = key o → name x = name o → x = o)
    (h : o ∈ objs ∨ m.at (key o) (name o) = some o) :
    (objs.foldl (fun acc x => acc.put (key x) (name x) x) m).at (key o) (name o) = some o := by
  refine foldl_of_step _ (·.at (key o) (name o) = some o) (· = o) objs m (fun a ha b hb => ?_)
    (h.symm.imp_right fun h => ⟨o, h, rfl⟩)
  rw [at_put]
  by_cases hk : key o = key a ∧ name o = name a
  · rw [if_pos hk, hinj a ha hk.1.symm hk.2.symm]
  · rw [if_neg hk]
    exact hb.resolve_right fun e => hk ⟨e ▸ rfl, e ▸ rfl⟩

theorem at_foldl_put_other {α : Type} (key : α → GVK) (name : α → String) (val : α → J) (k : GVK) (n : String) :
    ∀ (xs : List α) (m : ObjMap), (∀ a ∈ xs, ¬ (key a = k ∧ name a = n)) →
      (xs.foldl (fun acc a => acc.put (key a) (name a) (val a)) m).at k n = m.at k n := by
  intro xs
  induction xs with
  | nil => intro m _; rfl
  | cons a rest ih =>
    intro m h
    rw [List.foldl_cons, ih _ (fun b hb => h b (List.mem_cons_of_mem _ hb)), at_put]
    have : ¬ (k = key a ∧ n = name a) := fun e => h a (by simp) ⟨e.1.symm, e.2.symm⟩
    simp [this]

/-- one group per resource rule, as in `claimChildren` (composite) and `getChildren` (decorator): declare the group, then
    insert what the rule selects -/
def ObjMap.addGroup (m : ObjMap) (k : GVK) (os : List J) : ObjMap :=
  os.foldl (fun acc o => acc.insertUniform o) (m.initGroup k)

theorem hasGroup_addGroup (m : ObjMap) (k : GVK) (os : List J) (k' : GVK) (h : m.hasGroup k' = true ∨ k' = k) :
    (m.addGroup k os).hasGroup k' = true := by
  refine hasGroup_foldl_put _ _ _ _ _ ?_
  rw [hasGroup_initGroup]
  rcases h with h | h <;> simp [h]

theorem mem_list_addGroup {m : ObjMap} {k : GVK} {os : List J} {x : J} (h : x ∈ (m.addGroup k os).list) :
    x ∈ m.list ∨ x ∈ os := by
  rw [← list_initGroup m k]
  exact mem_list_foldl_put _ _ h

section
variable {α : Type} (key : α → GVK) (objs : α → List J)

theorem hasGroup_foldl_addGroup (k : GVK) (xs : List α) (m : ObjMap)
    (h : m.hasGroup k = true ∨ ∃ x ∈ xs, k = key x) :
    (xs.foldl (fun m x => m.addGroup (key x) (objs x)) m).hasGroup k = true :=
  foldl_of_step _ (·.hasGroup k = true) (k = key ·) xs m (fun _ _ _ => hasGroup_addGroup _ _ _ _) h

theorem mem_list_foldl_addGroup (o : J) : ∀ (xs : List α) (m : ObjMap),
    o ∈ (xs.foldl (fun m x => m.addGroup (key x) (objs x)) m).list → o ∈ m.list ∨ ∃ x ∈ xs, o ∈ objs x := by
  intro xs
  induction xs with
  | nil => intro m h; exact .inl h
  | cons x rest ih =>
    intro m h
    rcases ih _ h with h | ⟨y, hy, h⟩
    · rcases mem_list_addGroup h with h | h
      · exact .inl h
      · exact .inr ⟨x, List.mem_cons_self, h⟩
    · exact .inr ⟨y, List.mem_cons_of_mem _ hy, h⟩

theorem at_foldl_addGroup (o : J) (xs : List α) (m : ObjMap)
    (hinj : ∀ x ∈ xs, ∀ y ∈ objs x, gvkOf y = gvkOf o → qualifiedName y = qualifiedName o → y = o)
    (h : (∃ x ∈ xs, o ∈ objs x) ∨ m.at (gvkOf o) (qualifiedName o) = some o) :
    (xs.foldl (fun m x => m.addGroup (key x) (objs x)) m).at (gvkOf o) (qualifiedName o) = some o := by
  refine foldl_of_step _ (·.at (gvkOf o) (qualifiedName o) = some o) (o ∈ objs ·) xs m (fun x hx b hb => ?_) h.symm
  exact at_foldl_put _ _ o _ _ (hinj x hx) (hb.symm.imp_right fun hb => by rw [at_initGroup]; exact hb)

end

theorem hasGroup_foldl_initGroup : ∀ (m acc : ObjMap) (k : GVK),
    (m.foldl (fun acc g => acc.initGroup g.1) acc).hasGroup k = (acc.hasGroup k || m.hasGroup k) := by
  intro m
  induction m with
  | nil => intro acc k; simp [ObjMap.hasGroup]
  | cons g rest ih =>
    intro acc k
    rw [List.foldl_cons, ih, hasGroup_initGroup]
    simp only [ObjMap.hasGroup, List.any_cons]
    rw [Bool.or_assoc]
    congr 2
    exact BEq.comm

theorem list_foldl_initGroup : ∀ (m acc : ObjMap),
    (m.foldl (fun acc g => acc.initGroup g.1) acc).list = acc.list := by
  intro m
  induction m with
  | nil => intro acc; rfl
  | cons g rest ih => intro acc; rw [List.foldl_cons, ih, list_initGroup]

/-- the objects `convert` lets through -/
def ObjMap.convertObjs (m : ObjMap) (parentNs : String) : List J :=
  if parentNs == "" then m.list else m.list.filter (fun o => getNamespace o == parentNs)

theorem convert_eq (m : ObjMap) (ns : String) :
    m.convert ns = (m.convertObjs ns).foldl (fun (acc : ObjMap) o => acc.insertRelative ns o)
      (m.foldl (fun (acc : ObjMap) g => acc.initGroup g.1) []) := rfl

theorem hasGroup_convert (m : ObjMap) (ns : String) (k : GVK) (h : m.hasGroup k = true) :
    (m.convert ns).hasGroup k = true := by
  rw [convert_eq]
  apply hasGroup_foldl_put
  rw [hasGroup_foldl_initGroup, h]
  simp

theorem mem_convertObjs {m : ObjMap} {ns : String} {o : J} :
    o ∈ m.convertObjs ns ↔ o ∈ m.list ∧ (ns = "" ∨ getNamespace o = ns) := by
  unfold ObjMap.convertObjs
  by_cases h : ns = ""
  · simp [h]
  · simp [h, List.mem_filter]

theorem mem_list_convert {m : ObjMap} {ns : String} {o : J} (h : o ∈ (m.convert ns).list) :
    o ∈ m.list ∧ (ns = "" ∨ getNamespace o = ns) := by
  rw [convert_eq] at h
  rcases mem_list_foldl_put _ _ h with h | h
  · rw [list_foldl_initGroup] at h
    simp [ObjMap.list] at h
  · exact mem_convertObjs.1 h

theorem get?_toJ_text {m : ObjMap} {k : GVK} (h : m.hasGroup k = true) : (m.toJ.get? k.text).isSome = true := by
  unfold ObjMap.toJ J.get? J.fields
  induction m with
  | nil => simp [ObjMap.hasGroup] at h
  | cons g rest ih =>
    simp only [List.map_cons, lookup]
    by_cases e : k.text = g.1.text
    · simp [e]
    · simp only [e, if_false]
      apply ih
      simp only [ObjMap.hasGroup, List.any_cons, Bool.or_eq_true] at h
      rcases h with h | h
      · have : g.1 = k := by simpa using h
        exact absurd (by rw [this]) e
      · exact h

end Mc
