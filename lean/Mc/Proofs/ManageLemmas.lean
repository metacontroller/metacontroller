import Mc.Proofs.ProgLemmas
import Mc.Spec.ReqClass
/-
  `ManageChildren` decomposed: one self-contained step per child (`childStep`, `deleteStep`; `verdict` judges the answer
  to a write), the loops over the children of a group as one fold of such steps (`collect`), the loops over the groups as
  another (`groupLoop`); what holds of every step holds of the loops by the fold lemmas.  After them the requests of the
  steps: `RenderOf`, `SsaReq` / `ssaOne_calls`, and the response-independent request lists `C12.childReqs`,
  `updateGroupReqs`, `deleteGroupReqs` with their membership lemmas.
-/
namespace Mc
open Prog

/-- how a response to a write is judged: errors are reported unless their reason is in `benign` -/
def verdict (benign : List String) : Resp → Option String
  | .err e => if benign.contains e then none else some e
  | _ => none

/-- what `updateChildren` does for one desired child under dynamic apply -/
def childStep (mks sys : List String) (method : String) (t : Target) (parentRef : OwnerRef) (obs : Option J) (des : J) :
    Prog (Option String) :=
  match obs with
  | some obs =>
    match updateAct mks sys method obs des with
    | .none => .ret none
    | .error e => .ret (some e)
    | .delete uid => .call (.api .delete t .null (deleteOpts uid)) (fun x => .ret (verdict ["NotFound"] x))
    | .update body => .call (.api .update t body .null) (fun x => .ret (verdict ["NotFound", "Conflict"] x))
  | none => .call (.api .create t (createBody parentRef des) .null) (fun x => .ret (verdict ["AlreadyExists"] x))

def consErr (e : Option String) (errs : List String) : List String :=
  match e with | some e => e :: errs | none => errs

theorem consErr_eq_nil (e : Option String) (errs : List String) : consErr e errs = [] ↔ e = none ∧ errs = [] := by
  cases e <;> simp [consErr]

theorem updateGroup_nil (mks sys : List String) (children : List ChildRes) (ssa : Option String) (info : KindInfo) (kind : String)
    (parentRef : OwnerRef) (observed : List (String × J)) (memo : Memo) :
    updateGroup mks sys children ssa info kind parentRef observed [] memo = .ret ([], memo) := rfl

theorem updateGroup_cons (mks sys : List String) (children : List ChildRes) (info : KindInfo) (kind : String)
    (parentRef : OwnerRef) (observed : List (String × J)) (name : String) (des : J) (rest : List (String × J)) (memo : Memo) :
    updateGroup mks sys children none info kind parentRef observed ((name, des) :: rest) memo =
      Prog.bind (updateGroup mks sys children none info kind parentRef observed rest memo) (fun acc =>
        Prog.bind (childStep mks sys (getMethod children info.group kind)
            (targetOf info.group info.resource info.namespaced (getNamespace des) (getName des)) parentRef (observed.lookup name) des)
          (fun e => .ret (consErr e acc.1, acc.2))) := by
  rw [updateGroup]
  refine congrArg _ (funext fun ⟨errs, memo'⟩ => ?_)
  unfold childStep
  cases observed.lookup name with
  | none =>
    show Prog.call _ _ = Prog.call _ _
    refine congrArg _ (funext fun x => ?_)
    cases x with
    | err e =>
      by_cases he : e = "AlreadyExists"
      · subst he; rfl
      · simp [verdict, he, consErr]; rfl
    | _ => rfl
  | some obs =>
    dsimp only
    cases updateAct mks sys (getMethod children info.group kind) obs des with
    | none => rfl
    | error e => rfl
    | delete uid =>
      show Prog.call _ _ = Prog.call _ _
      refine congrArg _ (funext fun x => ?_)
      cases x with
      | err e =>
        by_cases he : e = "NotFound"
        · subst he; rfl
        · simp [verdict, he, consErr]; rfl
      | _ => rfl
    | update body =>
      show Prog.call _ _ = Prog.call _ _
      refine congrArg _ (funext fun x => ?_)
      cases x with
      | err e =>
        by_cases he : e = "NotFound"
        · subst he; rfl
        · by_cases he2 : e = "Conflict"
          · subst he2; rfl
          · simp [verdict, he, he2, consErr]; rfl
      | _ => rfl

theorem updateGroup_cons_ssa (mks sys : List String) (children : List ChildRes) (fm : String) (info : KindInfo) (kind : String)
    (parentRef : OwnerRef) (observed : List (String × J)) (name : String) (des : J) (rest : List (String × J)) (memo : Memo) :
    updateGroup mks sys children (some fm) info kind parentRef observed ((name, des) :: rest) memo =
      Prog.bind (updateGroup mks sys children (some fm) info kind parentRef observed rest memo) (fun acc =>
        Prog.bind (ssaOne fm info kind parentRef (observed.lookup name) des acc.2)
          (fun r => .ret (consErr r.1 acc.1, r.2))) :=
  rfl

/-- what `deleteChildren` does for one observed child: (error reported, memo entry to be dropped) -/
def deleteStep (t : Target) (desiredNames : List String) (name : String) (obj : J) : Prog (Option String × Bool) :=
  if isDeleting obj then .ret (none, false)
  else if desiredNames.contains name then .ret (none, false)
  else .call (.api .delete t .null (deleteOpts (getUID obj))) (fun x => .ret (verdict ["NotFound"] x, !x.isErr))

theorem deleteGroup_nil (info : KindInfo) (kind : String) (desiredNames : List String) (memo : Memo) :
    deleteGroup info kind desiredNames [] memo = .ret ([], memo) := rfl

theorem deleteGroup_cons (info : KindInfo) (kind : String) (desiredNames : List String) (name : String) (obj : J)
    (rest : List (String × J)) (memo : Memo) :
    deleteGroup info kind desiredNames ((name, obj) :: rest) memo =
      Prog.bind (deleteGroup info kind desiredNames rest memo) (fun acc =>
        Prog.bind (deleteStep (targetOf info.group info.resource info.namespaced (getNamespace obj) (getName obj)) desiredNames name obj)
          (fun r => .ret ((match r.1 with | some e => s!"can't delete: {e}" :: acc.1 | none => acc.1),
                          (if r.2 then acc.2.erase (memoKey info kind obj) else acc.2)))) := by
  rw [deleteGroup]
  refine congrArg _ (funext fun ⟨errs, memo'⟩ => ?_)
  unfold deleteStep
  cases isDeleting obj with
  | true => rfl
  | false =>
    cases desiredNames.contains name with
    | true => rfl
    | false =>
      show Prog.call _ _ = Prog.call _ _
      refine congrArg _ (funext fun x => ?_)
      cases x with
      | err e =>
        by_cases he : e = "NotFound"
        · subst he; rfl
        · simp [verdict, he, Resp.isErr]; rfl
      | _ => rfl

/-- the shape of `updateChildren` and `deleteChildren`: the tail first, then the head; the head's error (if any) goes in
    front of those collected so far, the memo is threaded -/
def collect {α : Type} (step : α → Memo → Prog (Option String × Memo)) : List α → Memo → Prog (List String × Memo)
  | [], memo => .ret ([], memo)
  | x :: rest, memo =>
    (collect step rest memo).bind fun acc => (step x acc.2).bind fun r => .ret (consErr r.1 acc.1, r.2)

section Collect
variable {α : Type} (step : α → Memo → Prog (Option String × Memo))

theorem Prog.AllCalls.collect {P : Req → Prop} : ∀ (xs : List α) (memo : Memo),
    (∀ x ∈ xs, ∀ m, AllCalls P (step x m)) → AllCalls P (collect step xs memo)
  | [], _, _ => .ret _
  | x :: rest, memo, h =>
    AllCalls.bind (Prog.AllCalls.collect rest memo (fun y hy => h y (List.mem_cons_of_mem _ hy)))
      (fun acc => AllCalls.bind (h x (List.mem_cons_self ..) acc.2) (fun _ => .ret _))

theorem Prog.Issues.collect (rs : α → List Req) : ∀ (xs : List α) (memo : Memo),
    (∀ x ∈ xs, ∀ m, Issues (rs x) (step x m)) → Issues (xs.reverse.flatMap rs) (collect step xs memo)
  | [], _, _ => .ret _
  | x :: rest, memo, h => by
    rw [List.reverse_cons, List.flatMap_append, List.flatMap_singleton]
    exact Issues.bind (Prog.Issues.collect rs rest memo (fun y hy => h y (List.mem_cons_of_mem _ hy)))
      (fun acc => Issues.map (h x (List.mem_cons_self ..) acc.2) _)

theorem collect_quiet : ∀ (xs : List α) (memo : Memo),
    (∀ x ∈ xs, ∀ m, step x m = .ret (none, m)) → collect step xs memo = .ret ([], memo)
  | [], _, _ => rfl
  | x :: rest, memo, h => by
    rw [collect, collect_quiet rest memo (fun y hy => h y (List.mem_cons_of_mem _ hy)), bind_ret,
      h x (List.mem_cons_self ..), bind_ret]
    rfl

theorem collect_errors (D : α → Prop) (S : Req × Resp → Prop)
    (hstep : ∀ x m l r, Trace (step x m) l r → (r.1 = none ↔ D x ∧ ∀ rx ∈ l, S rx)) :
    ∀ (xs : List α) (memo : Memo) (l : List (Req × Resp)) (errs : List String) (memo' : Memo),
      Trace (collect step xs memo) l (errs, memo') → (errs = [] ↔ (∀ x ∈ xs, D x) ∧ ∀ rx ∈ l, S rx)
  | [], memo, l, errs, memo', h => by
    obtain ⟨rfl, h2⟩ := Trace.ret_inv (a := (([] : List String), memo)) h
    cases h2
    simp
  | x :: rest, memo, l, errs, memo', h => by
    obtain ⟨l1, l2, acc, rfl, h1, h2⟩ := Trace.bind_inv (p := Mc.collect step rest memo) h
    obtain ⟨r, h3, h4⟩ := h2.map_inv
    cases h4
    rw [consErr_eq_nil, hstep x acc.2 l2 r h3, collect_errors D S hstep rest memo l1 acc.1 acc.2 h1,
      List.forall_mem_cons, List.forall_mem_append]
    exact ⟨fun ⟨⟨a, b⟩, c, d⟩ => ⟨⟨a, c⟩, d, b⟩, fun ⟨⟨a, c⟩, d, b⟩ => ⟨⟨a, b⟩, c, d⟩⟩

end Collect

/-- the step of `updateGroup` as a `collect`, in either apply mode -/
def updStep (mks sys : List String) (children : List ChildRes) (ssa : Option String) (info : KindInfo) (kind : String)
    (parentRef : OwnerRef) (observed : List (String × J)) (nd : String × J) (memo : Memo) : Prog (Option String × Memo) :=
  match ssa with
  | some fm => ssaOne fm info kind parentRef (observed.lookup nd.1) nd.2 memo
  | none =>
    (childStep mks sys (getMethod children info.group kind)
      (targetOf info.group info.resource info.namespaced (getNamespace nd.2) (getName nd.2)) parentRef (observed.lookup nd.1) nd.2).bind
      fun e => .ret (e, memo)

/-- the step of `deleteGroup` as a `collect` -/
def delStep (info : KindInfo) (kind : String) (desiredNames : List String) (no : String × J) (memo : Memo) :
    Prog (Option String × Memo) :=
  (deleteStep (targetOf info.group info.resource info.namespaced (getNamespace no.2) (getName no.2)) desiredNames no.1 no.2).bind fun r =>
    .ret (r.1.map (fun e => s!"can't delete: {e}"), if r.2 then memo.erase (memoKey info kind no.2) else memo)

theorem updateGroup_eq_collect (mks sys : List String) (children : List ChildRes) (ssa : Option String) (info : KindInfo)
    (kind : String) (parentRef : OwnerRef) (observed : List (String × J)) : ∀ (desired : List (String × J)) (memo : Memo),
    updateGroup mks sys children ssa info kind parentRef observed desired memo =
      collect (updStep mks sys children ssa info kind parentRef observed) desired memo
  | [], _ => rfl
  | (name, des) :: rest, memo => by
    cases ssa with
    | some fm =>
      rw [updateGroup_cons_ssa, updateGroup_eq_collect _ _ _ _ _ _ _ _ rest memo]
      rfl
    | none =>
      rw [updateGroup_cons, updateGroup_eq_collect _ _ _ _ _ _ _ _ rest memo, collect]
      simp only [updStep, bind_assoc, bind_ret]

theorem deleteGroup_eq_collect (info : KindInfo) (kind : String) (desiredNames : List String) :
    ∀ (observed : List (String × J)) (memo : Memo),
    deleteGroup info kind desiredNames observed memo = collect (delStep info kind desiredNames) observed memo
  | [], _ => rfl
  | (name, obj) :: rest, memo => by
    rw [deleteGroup_cons, deleteGroup_eq_collect _ _ _ rest memo, collect]
    simp only [delStep, bind_assoc, bind_ret]
    congr 1
    funext acc
    congr 1
    funext r
    cases r.1 <;> rfl

/-- the loop of `ManageChildren` over the groups of an object map: discovery failure, or the group's own loop; errors appended -/
def groupLoop {γ : Type} (K : γ → Option KindInfo) (body : KindInfo → γ → Memo → Prog (List String × Memo))
    (xs : List γ) (init : List String × Memo) : Prog (List String × Memo) :=
  xs.foldlM (fun (acc : List String × Memo) g =>
    match K g with
    | none => pure (acc.1 ++ ["discovery: can't find kind"], acc.2)
    | some info => do
      let (errs, memo) ← body info g acc.2
      pure (acc.1 ++ errs, memo)) init

theorem manageChildren_eq (mks sys : List String) (children : List ChildRes) (ssa : Option String) (kt : KindTable)
    (parentRef : OwnerRef) (observed desired : ObjMap) (memo : Memo) :
    manageChildren mks sys children ssa kt parentRef observed desired memo =
      (groupLoop (fun g => kt.find (gvkAPIVersion g.1) g.1.kind)
        (fun info g m => deleteGroup info g.1.kind ((desired.group g.1).map (·.1)) g.2 m) observed ([], memo)).bind fun a =>
      (groupLoop (fun g => kt.find (gvkAPIVersion g.1) g.1.kind)
        (fun info g m => updateGroup mks sys children ssa info g.1.kind parentRef (observed.group g.1) g.2 m) desired ([], a.2)).bind
        fun b => .ret (a.1 ++ b.1, b.2) := rfl

section GroupLoop
variable {γ : Type} (K : γ → Option KindInfo) (body : KindInfo → γ → Memo → Prog (List String × Memo))

theorem groupLoop_cons_none (g : γ) (xs : List γ) (init : List String × Memo) (h : K g = none) :
    groupLoop K body (g :: xs) init = groupLoop K body xs (init.1 ++ ["discovery: can't find kind"], init.2) := by
  simp only [groupLoop, List.foldlM_cons, h]
  rfl

theorem groupLoop_cons_some (g : γ) (xs : List γ) (init : List String × Memo) (info : KindInfo) (h : K g = some info) :
    groupLoop K body (g :: xs) init =
      (body info g init.2).bind fun r => groupLoop K body xs (init.1 ++ r.1, r.2) := by
  simp only [groupLoop, List.foldlM_cons, h]
  exact bind_assoc ..

theorem Prog.AllCalls.groupLoop {P : Req → Prop} (xs : List γ) (init : List String × Memo)
    (h : ∀ g ∈ xs, ∀ info, K g = some info → ∀ m, AllCalls P (body info g m)) : AllCalls P (groupLoop K body xs init) := by
  refine AllCalls.foldlM _ _ _ fun acc g hg => ?_
  cases hk : K g with
  | none => exact .ret _
  | some info => exact AllCalls.bind (h g hg info hk _) fun _ => .ret _

theorem Prog.Issues.groupLoop (rs : KindInfo → γ → List Req) (xs : List γ) (init : List String × Memo)
    (h : ∀ g ∈ xs, ∀ info, K g = some info → ∀ m, Issues (rs info g) (body info g m)) :
    Issues (xs.flatMap fun g => match K g with | none => [] | some info => rs info g) (groupLoop K body xs init) := by
  refine Issues.foldlM _ _ _ _ fun acc g hg => ?_
  cases hk : K g with
  | none => exact .ret _
  | some info => exact Issues.map (h g hg info hk _) fun (r : List String × Memo) => (acc.1 ++ r.1, r.2)

theorem groupLoop_quiet : ∀ (xs : List γ) (init : List String × Memo),
    (∀ g ∈ xs, ∃ info, K g = some info ∧ ∀ m, body info g m = .ret ([], m)) → groupLoop K body xs init = .ret init
  | [], _, _ => rfl
  | g :: xs, init, h => by
    obtain ⟨info, hk, hb⟩ := h g (List.mem_cons_self ..)
    rw [groupLoop_cons_some K body g xs init info hk, hb, bind_ret, List.append_nil]
    exact groupLoop_quiet xs init (fun g' hg' => h g' (List.mem_cons_of_mem _ hg'))

theorem groupLoop_errors (D : KindInfo → γ → Prop) (S : Req × Resp → Prop)
    (hbody : ∀ info g m l errs m', Trace (body info g m) l (errs, m') → (errs = [] ↔ D info g ∧ ∀ rx ∈ l, S rx)) :
    ∀ (xs : List γ) (init : List String × Memo) (l : List (Req × Resp)) (errs : List String) (memo' : Memo),
      Trace (groupLoop K body xs init) l (errs, memo') →
      (errs = [] ↔ init.1 = [] ∧ (∀ g ∈ xs, ∃ info, K g = some info ∧ D info g) ∧ ∀ rx ∈ l, S rx)
  | [], init, l, errs, memo', h => by
    obtain ⟨rfl, h2⟩ := Trace.ret_inv (a := init) h
    cases h2
    simp
  | g :: xs, init, l, errs, memo', h => by
    cases hk : K g with
    | none =>
      rw [groupLoop_cons_none K body g xs init hk] at h
      rw [groupLoop_errors D S hbody xs _ l errs memo' h]
      simp [hk]
    | some info =>
      rw [groupLoop_cons_some K body g xs init info hk] at h
      obtain ⟨l1, l2, r, rfl, h1, h2⟩ := h.bind_inv
      rw [groupLoop_errors D S hbody xs _ l2 errs memo' h2]
      have b := hbody info g init.2 l1 r.1 r.2 h1
      simp only [List.append_eq_nil_iff, b, List.forall_mem_cons, hk, Option.some.injEq, exists_eq_left',
        List.forall_mem_append]
      exact ⟨fun ⟨⟨hi, hd, hl⟩, hr, hall⟩ => ⟨hi, ⟨hd, hr⟩, hl, hall⟩, fun ⟨hi, ⟨hd, hr⟩, hl, hall⟩ => ⟨⟨hi, hd, hl⟩, hr, hall⟩⟩

end GroupLoop

/-- the request that renders a decision of `updateAct` on target `t` (no request for `.none` / `.error`) -/
def RenderOf (t : Target) (act : ChildAct) (r : Req) : Prop :=
  match act with
  | .none => False
  | .error _ => False
  | .delete uid => r = .api .delete t .null (deleteOpts uid)
  | .update body => r = .api .update t body .null

def SsaReq (fm : String) (t : Target) (parentRef : OwnerRef) (obs : Option J) (des : J) (r : Req) : Prop :=
  (r = .api .patchRemove t .null .null ∧ ∃ o, obs = some o ∧ hasKey lastAppliedAnnotation ((getAnnotations o).getD []) = true) ∨
  r = .api .apply t (applyBody parentRef des) (applyOpts fm)

theorem ssaOne_calls (fm : String) (info : KindInfo) (kind : String) (parentRef : OwnerRef) (obs : Option J) (des : J) (memo : Memo) :
    AllCalls (SsaReq fm (targetOf info.group info.resource info.namespaced (getNamespace des) (getName des)) parentRef obs des)
      (ssaOne fm info kind parentRef obs des memo) := by
  unfold ssaOne
  simp only []
  refine ite_ind (fun _ => .ret _) (fun _ => ?_)
  · refine AllCalls.bind ?_ ?_
    · cases obs with
      | none => exact .ret _
      | some o =>
        simp only []
        split
        · rename_i hk
          refine AllCalls.bind (AllCalls.request (Or.inl ⟨rfl, o, rfl, hk⟩)) ?_
          intro r; split <;> exact .ret _
        · exact .ret _
    · intro e
      split
      · exact .ret _
      · refine ite_ind (fun _ => .ret _) (fun _ => ?_)
        refine AllCalls.bind (AllCalls.request (Or.inr rfl)) ?_
        intro r; split <;> exact .ret _

namespace C12

abbrev tgt (info : KindInfo) (o : J) : Target :=
  targetOf info.group info.resource info.namespaced (getNamespace o) (getName o)

/-- the requests of one child step: none or one, fixed before any response is seen -/
def childReqs (mks sys : List String) (method : String) (t : Target) (parentRef : OwnerRef) (obs : Option J) (des : J) : List Req :=
  match obs with
  | some o =>
    match updateAct mks sys method o des with
    | .delete uid => [.api .delete t .null (deleteOpts uid)]
    | .update body => [.api .update t body .null]
    | _ => []
  | none => [.api .create t (createBody parentRef des) .null]

theorem childStep_issues (mks sys : List String) (method : String) (t : Target) (parentRef : OwnerRef) (obs : Option J) (des : J) :
    Issues (childReqs mks sys method t parentRef obs des) (childStep mks sys method t parentRef obs des) := by
  unfold childStep childReqs
  cases obs with
  | none => exact .call _ _ _ (fun x => .ret _)
  | some o =>
    simp only []
    cases updateAct mks sys method o des with
    | none => exact .ret _
    | error e => exact .ret _
    | delete uid => exact .call _ _ _ (fun x => .ret _)
    | update body => exact .call _ _ _ (fun x => .ret _)

theorem childReqs_target (mks sys : List String) (method : String) (t : Target) (parentRef : OwnerRef) (obs : Option J) (des : J) :
    ∀ r ∈ childReqs mks sys method t parentRef obs des, r.target? = some t := by
  intro r hr
  unfold childReqs at hr
  cases obs with
  | none => simp at hr; subst hr; rfl
  | some o =>
    simp only [] at hr
    cases h : updateAct mks sys method o des <;> simp [h] at hr <;> subst hr <;> rfl

def updateGroupReqs (mks sys : List String) (children : List ChildRes) (info : KindInfo) (kind : String) (parentRef : OwnerRef)
    (observed : List (String × J)) : List (String × J) → List Req
  | [] => []
  | (name, des) :: rest =>
      updateGroupReqs mks sys children info kind parentRef observed rest ++
      childReqs mks sys (getMethod children info.group kind) (tgt info des) parentRef (observed.lookup name) des

theorem updateGroupReqs_eq (mks sys : List String) (children : List ChildRes) (info : KindInfo) (kind : String) (parentRef : OwnerRef)
    (observed : List (String × J)) : ∀ (desired : List (String × J)),
    updateGroupReqs mks sys children info kind parentRef observed desired =
      desired.reverse.flatMap fun nd =>
        childReqs mks sys (getMethod children info.group kind) (tgt info nd.2) parentRef (observed.lookup nd.1) nd.2
  | [] => rfl
  | (name, des) :: rest => by
    rw [updateGroupReqs, updateGroupReqs_eq _ _ _ _ _ _ _ rest, List.reverse_cons, List.flatMap_append, List.flatMap_singleton]

theorem mem_updateGroupReqs {mks sys : List String} {children : List ChildRes} {info : KindInfo} {kind : String} {parentRef : OwnerRef}
    {observed desired : List (String × J)} {r : Req} :
    r ∈ updateGroupReqs mks sys children info kind parentRef observed desired ↔
      ∃ nd ∈ desired, r ∈ childReqs mks sys (getMethod children info.group kind) (tgt info nd.2) parentRef (observed.lookup nd.1) nd.2 := by
  simp only [updateGroupReqs_eq, List.mem_flatMap, List.mem_reverse]

theorem updateGroup_issues (mks sys : List String) (children : List ChildRes) (info : KindInfo) (kind : String)
    (parentRef : OwnerRef) (observed desired : List (String × J)) (memo : Memo) :
    Issues (updateGroupReqs mks sys children info kind parentRef observed desired)
      (updateGroup mks sys children none info kind parentRef observed desired memo) := by
  rw [updateGroupReqs_eq, updateGroup_eq_collect]
  exact Issues.collect _ _ _ _ fun nd _ m => Issues.map (childStep_issues ..) _

def deleteReqs (t : Target) (desiredNames : List String) (name : String) (obj : J) : List Req :=
  if isDeleting obj then [] else if desiredNames.contains name then [] else [.api .delete t .null (deleteOpts (getUID obj))]

theorem deleteStep_issues (t : Target) (desiredNames : List String) (name : String) (obj : J) :
    Issues (deleteReqs t desiredNames name obj) (deleteStep t desiredNames name obj) := by
  unfold deleteStep deleteReqs
  split
  · exact .ret _
  · split
    · exact .ret _
    · exact .call _ _ _ (fun x => .ret _)

def deleteGroupReqs (info : KindInfo) (desiredNames : List String) : List (String × J) → List Req
  | [] => []
  | (name, obj) :: rest => deleteGroupReqs info desiredNames rest ++ deleteReqs (tgt info obj) desiredNames name obj

theorem mem_deleteReqs {t : Target} {desiredNames : List String} {name : String} {obj : J} {r : Req} :
    r ∈ deleteReqs t desiredNames name obj ↔
      isDeleting obj = false ∧ desiredNames.contains name = false ∧ r = .api .delete t .null (deleteOpts (getUID obj)) := by
  unfold deleteReqs
  cases isDeleting obj <;> cases desiredNames.contains name <;> simp

theorem deleteGroupReqs_eq (info : KindInfo) (desiredNames : List String) : ∀ (observed : List (String × J)),
    deleteGroupReqs info desiredNames observed =
      observed.reverse.flatMap fun no => deleteReqs (tgt info no.2) desiredNames no.1 no.2
  | [] => rfl
  | (name, obj) :: rest => by
    rw [deleteGroupReqs, deleteGroupReqs_eq _ _ rest, List.reverse_cons, List.flatMap_append, List.flatMap_singleton]

theorem mem_deleteGroupReqs {info : KindInfo} {desiredNames : List String} {observed : List (String × J)} {r : Req} :
    r ∈ deleteGroupReqs info desiredNames observed ↔
      ∃ no ∈ observed, r ∈ deleteReqs (tgt info no.2) desiredNames no.1 no.2 := by
  simp only [deleteGroupReqs_eq, List.mem_flatMap, List.mem_reverse]

theorem deleteGroup_issues (info : KindInfo) (kind : String) (desiredNames : List String) (observed : List (String × J))
    (memo : Memo) : Issues (deleteGroupReqs info desiredNames observed) (deleteGroup info kind desiredNames observed memo) := by
  rw [deleteGroupReqs_eq, deleteGroup_eq_collect]
  exact Issues.collect _ _ _ _ fun no _ m => Issues.map (deleteStep_issues ..) _

end C12

theorem deleteGroup_calls {P : Req → Prop} (info : KindInfo) (kind : String) (desiredNames : List String)
    (observed : List (String × J)) (memo : Memo)
    (hP : ∀ name obj, (name, obj) ∈ observed → isDeleting obj = false → desiredNames.contains name = false →
      P (.api .delete (C12.tgt info obj) .null (deleteOpts (getUID obj)))) :
    AllCalls P (deleteGroup info kind desiredNames observed memo) := by
  refine (C12.deleteGroup_issues ..).allCalls fun r hr => ?_
  obtain ⟨⟨name, obj⟩, hno, h⟩ := C12.mem_deleteGroupReqs.mp hr
  obtain ⟨h1, h2, rfl⟩ := C12.mem_deleteReqs.mp h
  exact hP name obj hno h1 h2

macro "leaf" h:term : tactic => `(tactic| first | exact AllCalls.ret _ | (refine AllCalls.call _ _ ($h _ _ _ _ _ (by decide)) (fun x => ?_); simp only [bind_ret]; split <;> exact AllCalls.ret _))

end Mc
