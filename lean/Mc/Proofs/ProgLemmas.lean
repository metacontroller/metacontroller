import Mc.Sync.Types
/-
  The library about the tree predicates of `Mc/Prog.lean`: how they go through `Prog.bind` (beyond the base lemmas of
  `Prog.lean`), the `PE` monad and list iteration, and what they mean on one branch (`Trace`) and on the log of `Prog.run` (`run_trace`). Defined
  here: `Sat` / `PE.SatE` (the requests and the results of a program), the halting predicates `StopsAfter` (the combinators are
  stated for it; `HaltsAfter` of `Prog.lean` forgets the results), `HaltsInPrefix` (the first phase of a bind), `HaltsAfterR`
  (`StopsAfter` again), `WritesFollow`, `Issues`, `Trace`, and on the results of `PE` programs `AllOk`, `IsError`,
  `IsErrP`, `Avoids`.  Nothing here mentions a particular sync program.
-/
namespace Mc

/-- `refine ite_ind (fun _ => ?_) (fun _ => ?_)` walks an `if` of a program under any tree predicate, each branch under
    its case -/
theorem ite_ind {α : Sort _} {motive : α → Prop} {c : Prop} [Decidable c] {a b : α}
    (ha : c → motive a) (hb : ¬ c → motive b) : motive (if c then a else b) := by
  split
  · exact ha ‹_›
  · exact hb ‹_›

namespace Prog

theorem bind_eq {α β : Type} (p : Prog α) (f : α → Prog β) : (p >>= f) = Prog.bind p f := rfl
theorem pure_eq {α : Type} (a : α) : (pure a : Prog α) = Prog.ret a := rfl
theorem monad_bind_eq {α β : Type} (p : Prog α) (f : α → Prog β) : (p >>= f) = Prog.bind p f := rfl
theorem monad_pure_eq {α : Type} (a : α) : (pure a : Prog α) = Prog.ret a := rfl
@[simp] theorem bind_ret {α β : Type} (a : α) (f : α → Prog β) : Prog.bind (.ret a) f = f a := rfl
@[simp] theorem bind_call {α β : Type} (r : Req) (k : Resp → Prog α) (f : α → Prog β) :
    Prog.bind (.call r k) f = .call r (fun x => Prog.bind (k x) f) := rfl

theorem bind_assoc {α β γ : Type} (p : Prog α) (f : α → Prog β) (g : β → Prog γ) :
    (p.bind f).bind g = p.bind (fun a => (f a).bind g) := by
  induction p with
  | ret a => rfl
  | call r k ih => simp only [bind_call, ih]

theorem bind_ret_right {α : Type} (p : Prog α) : Prog.bind p Prog.ret = p := by
  induction p with
  | ret a => rfl
  | call r k ih => simp only [bind_call, ih]

theorem AllCalls.request {P : Req → Prop} {r : Req} (h : P r) : AllCalls P (Prog.request r) :=
  .call r _ h (fun x => .ret x)

theorem AllCalls.and {α : Type} {P Q : Req → Prop} {p : Prog α} (hp : AllCalls P p) (hq : AllCalls Q p) :
    AllCalls (fun r => P r ∧ Q r) p := by
  induction hp with
  | ret a => exact .ret a
  | call r k hr _ ih =>
    cases hq with
    | call _ _ hqr hqk => exact .call r k ⟨hr, hqr⟩ (fun x => ih x (hqk x))

theorem AllCalls.of_false {α : Type} {P : Req → Prop} {p : Prog α} (h : AllCalls (fun _ => False) p) :
    AllCalls P p := h.mono (fun _ hf => hf.elim)

theorem AllCalls.of_bind_left {α β : Type} {P : Req → Prop} {p : Prog α} {f : α → Prog β}
    (h : AllCalls P (p.bind f)) : AllCalls P p := by
  induction p with
  | ret a => exact .ret a
  | call r k ih =>
    cases h with
    | call _ _ hr hk => exact .call r k hr (fun x => ih x (hk x))

section
variable {α β : Type} {P : Req → Prop} {R : α → Prop} {S : β → Prop} {p : Prog α} {f : α → Prog β}

theorem AllCalls.foldlM (f : β → α → Prog β) :
    ∀ (xs : List α) (init : β), (∀ b, ∀ x ∈ xs, AllCalls P (f b x)) → AllCalls P (xs.foldlM f init)
  | [], init, _ => .ret init
  | x :: xs, init, h => by
    rw [List.foldlM_cons]
    exact AllCalls.bind (h init x (List.mem_cons_self ..))
      (fun b => AllCalls.foldlM f xs b (fun b' y hy => h b' y (List.mem_cons_of_mem _ hy)))

theorem AllRets.mono {S : α → Prop} (h : ∀ a, R a → S a) (hp : AllRets R p) :
    AllRets S p := by
  induction hp with
  | ret a ha => exact .ret a (h a ha)
  | call r k _ ih => exact .call r k ih

theorem AllRets.bind (hp : AllRets R p) (hf : ∀ a, R a → AllRets S (f a)) : AllRets S (p.bind f) := by
  induction hp with
  | ret a ha => exact hf a ha
  | call r k _ ih => exact .call r _ ih

end

theorem AllRets.trivial {α : Type} (p : Prog α) : AllRets (fun _ => True) p := by
  induction p with
  | ret a => exact .ret a True.intro
  | call r k ih => exact .call r k ih

theorem AllRets.pure {α : Type} {R : α → Prop} (a : α) (h : R a) : AllRets R (Pure.pure a : Prog α) := .ret a h

theorem AllRets.of_ret {α : Type} {R : α → Prop} {a : α} (h : AllRets R (Prog.ret a)) : R a := by
  cases h; assumption

theorem AllRets.foldlM {α β : Type} {R : β → Prop} (f : β → α → Prog β) :
    ∀ (xs : List α) (init : β), R init → (∀ b, R b → ∀ x ∈ xs, AllRets R (f b x)) → AllRets R (xs.foldlM f init) := by
  intro xs
  induction xs with
  | nil => intro init h _; exact .ret init h
  | cons x rest ih =>
    intro init hi h
    rw [List.foldlM_cons]
    exact AllRets.bind (h init hi x (List.mem_cons_self ..))
      (fun b hb => ih b hb (fun b' hb' y hy => h b' hb' y (List.mem_cons_of_mem _ hy)))

theorem AllCalls.bind_rets {α β : Type} {P : Req → Prop} {R : α → Prop} {p : Prog α} {f : α → Prog β}
    (hp : AllCalls P p) (hr : AllRets R p) (hf : ∀ a, R a → AllCalls P (f a)) : AllCalls P (p.bind f) := by
  induction hp with
  | ret a => cases hr with | ret _ ha => exact hf a ha
  | call r k hpr _ ih =>
    cases hr with
    | call _ _ hk => exact .call r _ hpr (fun x => ih x (hk x))

structure Sat {α : Type} (P : Req → Prop) (R : α → Prop) (p : Prog α) : Prop where
  calls : AllCalls P p
  rets : AllRets R p

section
variable {α β : Type} {P Q : Req → Prop} {R : α → Prop} {S : β → Prop} {p : Prog α} {f : α → Prog β}

theorem Sat.ret {a : α} (h : R a) : Sat P R (.ret a) :=
  ⟨.ret a, .ret a h⟩

theorem Sat.call {r : Req} {k : Resp → Prog α}
    (hr : P r) (hk : ∀ x, Sat P R (k x)) : Sat P R (.call r k) :=
  ⟨.call r k hr (fun x => (hk x).1), .call r k (fun x => (hk x).2)⟩

/-- the continuation is only examined on the results the first part can produce -/
theorem Sat.bind (hp : Sat P R p) (hf : ∀ a, R a → Sat P S (f a)) : Sat P S (p.bind f) :=
  ⟨AllCalls.bind_rets hp.1 hp.2 (fun a h => (hf a h).1), AllRets.bind hp.2 (fun a h => (hf a h).2)⟩

theorem Sat.of_calls (h : AllCalls P p) : Sat P (fun _ => True) p :=
  ⟨h, .trivial p⟩

theorem NoPAfterQ.of_noP (h : NoQ P p) : NoPAfterQ P Q p := by
  induction h with
  | ret a => exact .ret a
  | call r k _ hk ih => exact .call r k (fun _ x => hk x) ih

theorem NoPAfterQ.bind (hp : NoQ Q p) (hf : ∀ a, NoPAfterQ P Q (f a)) : NoPAfterQ P Q (p.bind f) := by
  induction hp with
  | ret a => exact hf a
  | call r k hr _ ih => exact .call r _ (fun hq => (hr hq).elim) ih

theorem NoPAfterQ.seq (hp : NoQ Q p) (hf : ∀ a, NoQ P (f a)) : NoPAfterQ P Q (p.bind f) :=
  .bind hp (fun a => .of_noP (hf a))

end

theorem HaltsAfter.of_noQ {α : Type} {G : Req → Resp → Prop} {Q : Req → Prop} {p : Prog α}
    (h : NoQ Q p) : HaltsAfter G Q p := by
  induction h with
  | ret a => exact .ret a
  | call r k _ hk ih => exact .call r k (fun x _ => hk x) ih

theorem HaltsAfter.of_noG {α : Type} {G : Req → Resp → Prop} {Q : Req → Prop} {p : Prog α}
    (h : AllCalls (fun r => ∀ x, ¬ G r x) p) : HaltsAfter G Q p := by
  induction h with
  | ret a => exact .ret a
  | call r k hr _ ih => exact .call r k (fun x hg => (hr x hg).elim) ih

theorem HaltsAfter.mono {α : Type} {G G' : Req → Resp → Prop} {Q Q' : Req → Prop} {p : Prog α}
    (hG : ∀ r x, G' r x → G r x) (hQ : ∀ r, Q' r → Q r) (h : HaltsAfter G Q p) : HaltsAfter G' Q' p := by
  induction h with
  | ret a => exact .ret a
  | call r k hg _ ih =>
    exact .call r k (fun x hx => (hg x (hG r x hx)).mono (fun r hn hq => hn (hQ r hq))) ih

/-- the same inductive as `StopsAfter` (`haltsAfterR_iff_stopsAfter`), which the lemmas are stated for -/
inductive HaltsAfterR {α : Type} (G : Req → Resp → Prop) (Q : Req → Prop) (R : α → Prop) : Prog α → Prop where
  | ret (a : α) : HaltsAfterR G Q R (.ret a)
  | call (r : Req) (k : Resp → Prog α) :
      (∀ x, G r x → NoQ Q (k x) ∧ AllRets R (k x)) → (∀ x, HaltsAfterR G Q R (k x)) → HaltsAfterR G Q R (.call r k)

/-- after a (request, response) pair satisfying `G`: no `Q`-request is issued any more and every result satisfies `R` -/
inductive StopsAfter {α : Type} (G : Req → Resp → Prop) (Q : Req → Prop) (R : α → Prop) : Prog α → Prop where
  | ret (a : α) : StopsAfter G Q R (.ret a)
  | call (r : Req) (k : Resp → Prog α) :
      (∀ x, G r x → NoQ Q (k x) ∧ AllRets R (k x)) → (∀ x, StopsAfter G Q R (k x)) → StopsAfter G Q R (.call r k)

section
variable {α β : Type} {Q : Req → Prop} {G : Req → Resp → Prop} {R : α → Prop} {S : β → Prop} {p : Prog α} {f : α → Prog β}

theorem StopsAfter.of_noG (h : AllCalls (fun r => ∀ x, ¬ G r x) p) : StopsAfter G Q R p := by
  induction h with
  | ret a => exact .ret a
  | call r k hr _ ih => exact .call r k (fun x hx => absurd hx (hr x)) ih

theorem StopsAfter.bind (hp : StopsAfter G Q R p) (hf : ∀ a, StopsAfter G Q S (f a))
    (hR : ∀ a, R a → NoQ Q (f a) ∧ AllRets S (f a)) : StopsAfter G Q S (p.bind f) := by
  induction hp with
  | ret a => exact hf a
  | call r k hg _ ih =>
    refine .call r _ ?_ (fun x => ih x)
    intro x hx
    obtain ⟨h1, h2⟩ := hg x hx
    exact ⟨AllCalls.bind_rets h1 h2 (fun a ha => (hR a ha).1), AllRets.bind h2 (fun a ha => (hR a ha).2)⟩

theorem StopsAfter.bind_noG
    (hp : AllCalls (fun r => ∀ x, ¬ G r x) p) (hf : ∀ a, StopsAfter G Q S (f a)) : StopsAfter G Q S (p.bind f) :=
  StopsAfter.bind (R := fun _ => False) (StopsAfter.of_noG hp) hf (fun _ h => h.elim)

theorem StopsAfter.mono {S : α → Prop}
    (h : ∀ a, R a → S a) (hp : StopsAfter G Q R p) : StopsAfter G Q S p := by
  induction hp with
  | ret a => exact .ret a
  | call r k hg _ ih => exact .call r k (fun x hx => ⟨(hg x hx).1, AllRets.mono h (hg x hx).2⟩) ih

theorem StopsAfter.haltsAfter (hp : StopsAfter G Q R p) : HaltsAfter G Q p := by
  induction hp with
  | ret a => exact .ret a
  | call r k hg _ ih => exact .call r k (fun x hx => (hg x hx).1) ih

/-- the first part is asked for `StopsAfter`: the continuation must be quiet on the results it can produce after halting -/
theorem HaltsAfter.bind (hp : StopsAfter G Q R p) (hf : ∀ a, HaltsAfter G Q (f a))
    (hq : ∀ a, R a → NoQ Q (f a)) : HaltsAfter G Q (p.bind f) := by
  induction hp with
  | ret a => exact hf a
  | call r k hg _ ih =>
    refine .call r _ (fun x hx => ?_) ih
    obtain ⟨h1, h2⟩ := hg x hx
    exact AllCalls.bind_rets h1 h2 hq

end

theorem HaltsAfter.bind_noG {α β : Type} {G : Req → Resp → Prop} {Q : Req → Prop}
    {p : Prog α} {f : α → Prog β}
    (hp : AllCalls (fun r => ∀ x, ¬ G r x) p) (hf : ∀ a, HaltsAfter G Q (f a)) : HaltsAfter G Q (p.bind f) :=
  HaltsAfter.bind (R := fun _ => False) (.of_noG hp) hf (fun _ h => h.elim)

/-- "within the first phase `p` of `p.bind f`": after a `G` pair met inside `p`, the whole
    remaining program - the rest of `p` and then `f` - issues no `Q` request -/
inductive HaltsInPrefix {α β : Type} (G : Req → Resp → Prop) (Q : Req → Prop) (f : α → Prog β) : Prog α → Prop where
  | ret (a : α) : HaltsInPrefix G Q f (.ret a)
  | call (r : Req) (k : Resp → Prog α) :
      (∀ x, G r x → NoQ Q ((k x).bind f)) → (∀ x, HaltsInPrefix G Q f (k x)) → HaltsInPrefix G Q f (.call r k)

theorem HaltsInPrefix.of_stopsAfter {α β : Type} {G : Req → Resp → Prop} {Q : Req → Prop} {R : α → Prop}
    {p : Prog α} {f : α → Prog β}
    (hp : StopsAfter G Q R p) (hq : ∀ a, R a → NoQ Q (f a)) : HaltsInPrefix G Q f p := by
  induction hp with
  | ret a => exact .ret a
  | call r k hg _ ih =>
    exact .call r k (fun x hx => AllCalls.bind_rets (hg x hx).1 (hg x hx).2 hq) ih

theorem haltsAfterR_iff_stopsAfter {α : Type} {G : Req → Resp → Prop} {Q : Req → Prop} {R : α → Prop} {p : Prog α} :
    HaltsAfterR G Q R p ↔ StopsAfter G Q R p := by
  constructor
  · intro h
    induction h with
    | ret a => exact .ret a
    | call r k hg _ ih => exact .call r k hg ih
  · intro h
    induction h with
    | ret a => exact .ret a
    | call r k hg _ ih => exact .call r k hg ih

theorem HaltsAfterR.mono {α : Type} {G : Req → Resp → Prop} {Q : Req → Prop} {R S : α → Prop} {p : Prog α}
    (hRS : ∀ a, R a → S a) (h : HaltsAfterR G Q R p) : HaltsAfterR G Q S p :=
  haltsAfterR_iff_stopsAfter.mpr ((haltsAfterR_iff_stopsAfter.mp h).mono hRS)

theorem AtMost.mono {α : Type} {Q : Req → Prop} {n m : Nat} {p : Prog α} (h : AtMost Q n p) (hnm : n ≤ m) :
    AtMost Q m p := by
  induction h generalizing m with
  | ret n a => exact .ret m a
  | callQ n r k _ ih =>
    cases m with
    | zero => omega
    | succ m => exact .callQ m r k (fun x => ih x (by omega))
  | callN n r k hr _ ih => exact .callN m r k hr (fun x => ih x hnm)

theorem AtMost.of_noQ {α : Type} {Q : Req → Prop} {p : Prog α} (h : NoQ Q p) : AtMost Q 0 p := by
  induction h with
  | ret a => exact .ret 0 a
  | call r k hr _ ih => exact .callN 0 r k hr ih

theorem AtMost.bind {α β : Type} {Q : Req → Prop} {n m : Nat} {p : Prog α} {f : α → Prog β}
    (hp : AtMost Q n p) (hf : ∀ a, AtMost Q m (f a)) : AtMost Q (n + m) (p.bind f) := by
  induction hp with
  | ret n a => exact (hf a).mono (by omega)
  | callQ n r k _ ih =>
    rw [Nat.add_right_comm]
    exact .callQ (n + m) r _ ih
  | callN n r k hr _ ih => exact .callN (n + m) r _ hr ih

/-- read-modify-write discipline: a `W` request is only ever issued immediately after a non-`W`
    request, and then the pair (answer to that read, the write) satisfies `Φ`.
    The index is the answer to the immediately preceding read, if the previous request was a read. -/
inductive WritesFollow {α : Type} (W : Req → Prop) (Φ : Resp → Req → Prop) : Option Resp → Prog α → Prop where
  | ret (s : Option Resp) (a : α) : WritesFollow W Φ s (.ret a)
  | read (s : Option Resp) (r : Req) (k : Resp → Prog α) :
      ¬ W r → (∀ x, WritesFollow W Φ (some x) (k x)) → WritesFollow W Φ s (.call r k)
  | write (x : Resp) (r : Req) (k : Resp → Prog α) :
      Φ x r → (∀ y, WritesFollow W Φ none (k y)) → WritesFollow W Φ (some x) (.call r k)

theorem WritesFollow.mono {α : Type} {W : Req → Prop} {Φ Ψ : Resp → Req → Prop} {s : Option Resp} {p : Prog α}
    (hΦ : ∀ x r, Φ x r → Ψ x r) (h : WritesFollow W Φ s p) : WritesFollow W Ψ s p := by
  induction h with
  | ret s a => exact .ret s a
  | read s r k hr _ ih => exact .read s r k hr ih
  | write x r k hphi _ ih => exact .write x r k (hΦ x r hphi) ih

theorem WritesFollow.allCalls {α : Type} {W : Req → Prop} {Φ : Resp → Req → Prop} {s : Option Resp} {p : Prog α}
    (h : WritesFollow W Φ s p) : AllCalls (fun r => ¬ W r ∨ ∃ x, Φ x r) p := by
  induction h with
  | ret s a => exact .ret a
  | read s r k hr _ ih => exact .call r k (.inl hr) ih
  | write x r k hphi _ ih => exact .call r k (.inr ⟨x, hphi⟩) ih

theorem WritesFollow.first_not_write {α : Type} {W : Req → Prop} {Φ : Resp → Req → Prop} {r : Req} {k : Resp → Prog α}
    (h : WritesFollow W Φ none (.call r k)) : ¬ W r := by
  cases h with
  | read _ _ _ hr _ => exact hr

theorem WritesFollow.second_write {α : Type} {W : Req → Prop} {Φ : Resp → Req → Prop} {r : Req} {k : Resp → Prog α}
    {s : Option Resp} (h : WritesFollow W Φ s (.call r k)) (x : Resp) (w : Req) (k' : Resp → Prog α)
    (hk : k x = .call w k') (hw : W w) : Φ x w := by
  cases h with
  | read _ _ _ _ hk' =>
    have := hk' x
    rw [hk] at this
    cases this with
    | read _ _ _ hnw _ => exact (hnw hw).elim
    | write _ _ _ hphi _ => exact hphi
  | write _ _ _ hphi hk' =>
    have := hk' x
    rw [hk] at this
    cases this with
    | read _ _ _ hnw _ => exact (hnw hw).elim

/-- every branch of the program issues exactly the requests `rs`, in this order, whatever the responses -/
inductive Issues {α : Type} : List Req → Prog α → Prop where
  | ret (a : α) : Issues [] (.ret a)
  | call (r : Req) (k : Resp → Prog α) (rs : List Req) : (∀ x, Issues rs (k x)) → Issues (r :: rs) (.call r k)

section
variable {α β : Type} {P : Req → Prop} {p : Prog α} {f : α → Prog β}

theorem Issues.bind {rs rs' : List Req}
    (hp : Issues rs p) (hf : ∀ a, Issues rs' (f a)) : Issues (rs ++ rs') (p.bind f) := by
  induction hp with
  | ret a => exact hf a
  | call r k rs _ ih => exact .call r _ _ (fun x => ih x)

theorem Issues.map {rs : List Req} (hp : Issues rs p) (g : α → β) :
    Issues rs (p.bind (fun a => .ret (g a))) :=
  List.append_nil rs ▸ hp.bind (fun a => .ret (g a))

theorem Issues.foldlM (f : β → α → Prog β) (rs : α → List Req) :
    ∀ (xs : List α) (init : β), (∀ b, ∀ x ∈ xs, Issues (rs x) (f b x)) → Issues (xs.flatMap rs) (xs.foldlM f init) := by
  intro xs
  induction xs with
  | nil => intro init _; exact .ret init
  | cons x rest ih =>
    intro init h
    rw [List.foldlM_cons, List.flatMap_cons]
    exact Issues.bind (h init x (List.mem_cons_self ..)) (fun b => ih b (fun b' y hy => h b' y (List.mem_cons_of_mem _ hy)))

theorem Issues.allCalls {rs : List Req} (h : Issues rs p)
    (hP : ∀ r ∈ rs, P r) : AllCalls P p := by
  induction h with
  | ret a => exact .ret a
  | call r k rs _ ih =>
    exact .call r k (hP r (List.mem_cons_self ..)) (fun x => ih x (fun r' hr' => hP r' (List.mem_cons_of_mem _ hr')))

end

/-- one complete branch: the (request, response) pairs met and the result reached -/
inductive Trace {α : Type} : Prog α → List (Req × Resp) → α → Prop where
  | ret (a : α) : Trace (.ret a) [] a
  | call (r : Req) (k : Resp → Prog α) (x : Resp) (l : List (Req × Resp)) (a : α) :
      Trace (k x) l a → Trace (.call r k) ((r, x) :: l) a

theorem Trace.bind_inv {α β : Type} {p : Prog α} {f : α → Prog β} {l : List (Req × Resp)} {b : β}
    (h : Trace (p.bind f) l b) : ∃ l1 l2 a, l = l1 ++ l2 ∧ Trace p l1 a ∧ Trace (f a) l2 b := by
  induction p generalizing l with
  | ret a => exact ⟨[], l, a, rfl, .ret a, h⟩
  | call r k ih =>
    rw [bind_call] at h
    cases h with
    | call _ _ x l' _ h' =>
      obtain ⟨l1, l2, a, rfl, h1, h2⟩ := ih x h'
      exact ⟨(r, x) :: l1, l2, a, rfl, .call r k x l1 a h1, h2⟩

theorem Trace.bind {α β : Type} {p : Prog α} {f : α → Prog β} {l1 l2 : List (Req × Resp)} {a : α} {b : β}
    (h1 : Trace p l1 a) (h2 : Trace (f a) l2 b) : Trace (p.bind f) (l1 ++ l2) b := by
  induction h1 with
  | ret a => exact h2
  | call r k x l a _ ih => exact .call r _ x _ b (ih h2)

section
variable {α β : Type} {p : Prog α}

theorem Trace.ret_inv {a b : α} {l : List (Req × Resp)} (h : Trace (.ret a) l b) : l = [] ∧ b = a := by
  cases h; exact ⟨rfl, rfl⟩

theorem Trace.call_inv {r : Req} {k : Resp → Prog α} {b : α} {l : List (Req × Resp)}
    (h : Trace (.call r k) l b) : ∃ x l', l = (r, x) :: l' ∧ Trace (k x) l' b := by
  cases h with
  | call _ _ x l' _ h' => exact ⟨x, l', rfl, h'⟩

theorem Trace.map_inv {g : α → β} {l : List (Req × Resp)} {b : β}
    (h : Trace (p.bind fun a => .ret (g a)) l b) : ∃ a, Trace p l a ∧ b = g a := by
  obtain ⟨l1, l2, a, rfl, h1, h2⟩ := h.bind_inv
  obtain ⟨rfl, rfl⟩ := h2.ret_inv
  exact ⟨a, by rwa [List.append_nil], rfl⟩

/-- a run follows one branch of the program and logs it -/
theorem run_trace {σ : Type} {step : σ → Req → Resp × σ} {s : σ} {fuel : Nat} {a : α} {s' : σ} {log : List (Req × Resp)}
    (h : run step p s fuel = some (a, s', log)) : Trace p log a := by
  induction p generalizing s fuel log with
  | ret b =>
    cases h
    exact .ret _
  | call r k ih =>
    cases fuel with
    | zero => cases h
    | succ n =>
      simp only [run] at h
      split at h
      · rename_i heq
        cases h
        exact .call _ _ _ _ _ (ih _ heq)
      · cases h

theorem Trace.all {P : Req → Prop} {l : List (Req × Resp)} {a : α} (ht : Trace p l a) (hp : AllCalls P p) :
    ∀ rx ∈ l, P rx.1 := by
  induction ht with
  | ret a => exact fun _ h => nomatch h
  | call r k x l a _ ih =>
    cases hp with | call _ _ hr hk =>
    exact List.forall_mem_cons.mpr ⟨hr, ih (hk x)⟩

theorem NoPAfterQ.haltsAfter {P Q : Req → Prop} (h : NoPAfterQ P Q p) : HaltsAfter (fun r _ => Q r) P p := by
  induction h with
  | ret a => exact .ret a
  | call r k hq _ ih => exact .call r k (fun x hr => hq hr x) ih

end

theorem Trace.haltsAfter {α : Type} {G : Req → Resp → Prop} {Q : Req → Prop} {p : Prog α} {l : List (Req × Resp)} {a : α}
    (ht : Trace p l a) (hp : HaltsAfter G Q p) :
    ∀ l1 rx l2, l = l1 ++ rx :: l2 → G rx.1 rx.2 → ∀ ry ∈ l2, ¬ Q ry.1 := by
  induction ht with
  | ret a =>
    intro l1 rx l2 hl
    simp at hl
  | call r k x l a ht' ih =>
    intro l1 rx l2 hl hG
    cases hp with | call _ _ hg hk =>
    cases l1 with
    | nil =>
      cases hl
      exact ht'.all (hg x hG)
    | cons y l1' =>
      cases hl
      exact ih (hk x) l1' rx l2 rfl hG

theorem run_log_haltsAfter {α σ : Type} {G : Req → Resp → Prop} {Q : Req → Prop} (step : σ → Req → Resp × σ) (p : Prog α)
    (hp : HaltsAfter G Q p) : ∀ (s : σ) (fuel : Nat) a s' log, run step p s fuel = some (a, s', log) →
      ∀ l1 rx l2, log = l1 ++ rx :: l2 → G rx.1 rx.2 → ∀ ry ∈ l2, ¬ Q ry.1 :=
  fun _ _ _ _ _ h => (run_trace h).haltsAfter hp

theorem run_log_noPAfterQ {α σ : Type} {P Q : Req → Prop} (step : σ → Req → Resp × σ) (p : Prog α)
    (hp : NoPAfterQ P Q p) : ∀ (s : σ) (fuel : Nat) a s' log, run step p s fuel = some (a, s', log) →
      ∀ l1 rx l2, log = l1 ++ rx :: l2 → Q rx.1 → ∀ ry ∈ l2, ¬ P ry.1 :=
  run_log_haltsAfter step p hp.haltsAfter

theorem Trace.guarded {α : Type} {G : Req → Resp → Prop} {Q : Req → Prop} {p : Prog α} {l : List (Req × Resp)} {a : α}
    (ht : Trace p l a) (hp : Guarded G Q p) :
    ∀ l1 rx l2, l = l1 ++ rx :: l2 → Q rx.1 → ∃ ry ∈ l1, G ry.1 ry.2 := by
  induction ht with
  | ret a =>
    intro l1 rx l2 hl
    simp at hl
  | call r k x l a _ ih =>
    intro l1 rx l2 hl hQ
    cases hp with | call _ _ hnq hk =>
    cases l1 with
    | nil =>
      cases hl
      exact (hnq hQ).elim
    | cons y l1' =>
      cases hl
      by_cases hg : G r x
      · exact ⟨(r, x), List.mem_cons_self .., hg⟩
      · obtain ⟨ry, hmem, hgy⟩ := ih (hk x hg) l1' rx l2 rfl hQ
        exact ⟨ry, List.mem_cons_of_mem _ hmem, hgy⟩

theorem run_log_guarded {α σ : Type} {G : Req → Resp → Prop} {Q : Req → Prop} (step : σ → Req → Resp × σ) (p : Prog α)
    (hp : Guarded G Q p) : ∀ (s : σ) (fuel : Nat) a s' log, run step p s fuel = some (a, s', log) →
      ∀ l1 rx l2, log = l1 ++ rx :: l2 → Q rx.1 → ∃ ry ∈ l1, G ry.1 ry.2 :=
  fun _ _ _ _ _ h => (run_trace h).guarded hp

theorem Trace.atMost {α : Type} {Q : Req → Prop} [DecidablePred Q] {p : Prog α} {l : List (Req × Resp)} {a : α} {n : Nat}
    (ht : Trace p l a) (hp : AtMost Q n p) : (l.filter (fun rx => decide (Q rx.1))).length ≤ n := by
  induction ht generalizing n with
  | ret a => exact Nat.zero_le n
  | call r k x l a _ ih =>
    cases hp with
    | callQ n _ _ hk =>
      have := ih (hk x)
      simp only [List.filter_cons]
      split <;> simp <;> omega
    | callN _ _ _ hr hk =>
      have := ih (hk x)
      simp [hr, this]

theorem run_log_atMost {α σ : Type} {Q : Req → Prop} [DecidablePred Q] (step : σ → Req → Resp × σ) (p : Prog α) (n : Nat)
    (hp : AtMost Q n p) : ∀ (s : σ) (fuel : Nat) a s' log, run step p s fuel = some (a, s', log) →
      (log.filter (fun rx => decide (Q rx.1))).length ≤ n :=
  fun _ _ _ _ _ h => (run_trace h).atMost hp

end Prog

open Prog

namespace PE

theorem bind_eq {α β : Type} (p : PE α) (f : α → PE β) : (p >>= f) = PE.bind p f := rfl
theorem pure_eq {α : Type} (a : α) : (Pure.pure a : PE α) = Prog.ret (.ok a) := rfl
theorem monad_bind_eq {α β : Type} (p : PE α) (f : α → PE β) : (p >>= f) = PE.bind p f := rfl
theorem monad_pure_eq {α : Type} (a : α) : (Pure.pure a : PE α) = Prog.ret (.ok a) := rfl

theorem bind_error {α β : Type} (e : Err) (f : α → PE β) : PE.bind (Prog.ret (.error e)) f = Prog.ret (.error e) := rfl
theorem bind_ok {α β : Type} (a : α) (f : α → PE β) : PE.bind (Prog.ret (.ok a)) f = f a := rfl
theorem bind_call {α β : Type} (r : Req) (k : Resp → PE α) (f : α → PE β) :
    PE.bind (Prog.call r k) f = Prog.call r (fun x => PE.bind (k x) f) := rfl

theorem bind_lift {α β : Type} (p : Prog α) (f : α → PE β) : PE.bind (PE.lift p) f = Prog.bind p f := by
  unfold PE.bind PE.lift
  rw [Prog.bind_assoc]
  rfl

theorem foldlM_nil {α β : Type} (f : β → α → PE β) (b : β) : List.foldlM f b [] = PE.pure b := rfl

theorem foldlM_cons {α β : Type} (f : β → α → PE β) (b : β) (a : α) (l : List α) :
    List.foldlM f b (a :: l) = PE.bind (f b a) (fun b' => List.foldlM f b' l) := rfl

theorem allCalls_pure {α : Type} {P : Req → Prop} (a : α) : AllCalls P (PE.pure a) := .ret _
theorem allCalls_fail {α : Type} {P : Req → Prop} (m : String) : AllCalls P (PE.fail m : PE α) := .ret _
theorem allCalls_throw {α : Type} {P : Req → Prop} (e : Err) : AllCalls P (PE.throw e : PE α) := .ret _

section
variable {α β : Type} {P : Req → Prop}

theorem allCalls_ofExcept (e : Except String α) : AllCalls P (PE.ofExcept e) := by
  cases e <;> exact .ret _

theorem allCalls_lift {p : Prog α} (h : AllCalls P p) : AllCalls P (PE.lift p) :=
  AllCalls.bind h (fun _ => .ret _)

theorem allCalls_lift_request {q : Req} (hq : P q) :
    Prog.AllCalls P (PE.lift (Prog.request q)) :=
  allCalls_lift (.request hq)

theorem allCalls_bind {p : PE α} {f : α → PE β}
    (hp : AllCalls P p) (hf : ∀ a, AllCalls P (f a)) : AllCalls P (PE.bind p f) := by
  refine AllCalls.bind hp (fun r => ?_)
  cases r with
  | ok a => exact hf a
  | error e => exact .ret _

theorem allCalls_bind_ofExcept (e : Except String α) (f : α → PE β)
    (h : ∀ a, e = .ok a → AllCalls P (f a)) : AllCalls P (PE.bind (PE.ofExcept e) f) := by
  cases e with
  | error m => exact .ret _
  | ok a => exact h a rfl

end

theorem allCalls_mapM {α β : Type} {P : Req → Prop} (step : α → PE β)
    (h : ∀ x, AllCalls P (step x)) (xs : List α) : AllCalls P (List.mapM (m := PE) step xs) := by
  unfold List.mapM
  generalize ([] : List β) = acc
  induction xs generalizing acc with
  | nil => exact .ret _
  | cons x xs ih => exact allCalls_bind (h x) (fun b => ih (b :: acc))

/-- every successful leaf satisfies `R` -/
abbrev AllOk {α : Type} (R : α → Prop) (p : PE α) : Prop :=
  Prog.AllRets (fun r => ∀ a, r = .ok a → R a) p

section
variable {α β : Type}

theorem AllOk.pure {R : α → Prop} {a : α} (h : R a) : AllOk R (PE.pure a) :=
  .ret _ (fun b hb => by cases hb; exact h)

theorem AllOk.fail {R : α → Prop} (msg : String) : AllOk R (PE.fail msg : PE α) :=
  .ret _ (fun b hb => by cases hb)

theorem AllOk.throw {R : α → Prop} (e : Err) : AllOk R (PE.throw e : PE α) :=
  .ret _ (fun b hb => by cases hb)

theorem AllOk.ofExcept {R : α → Prop} {e : Except String α} (h : ∀ a, e = .ok a → R a) :
    AllOk R (PE.ofExcept e) := by
  cases e with
  | ok a => exact AllOk.pure (h a rfl)
  | error m => exact AllOk.fail m

theorem AllOk.bind {Q : α → Prop} {R : β → Prop} {p : PE α} {f : α → PE β}
    (hp : AllOk Q p) (hf : ∀ a, Q a → AllOk R (f a)) : AllOk R (PE.bind p f) := by
  unfold PE.bind
  apply Prog.AllRets.bind hp
  intro r hr
  cases r with
  | ok a => exact hf a (hr a rfl)
  | error e => exact .ret _ (fun b hb => by cases hb)

theorem AllOk.lift {R : α → Prop} {p : Prog α} (hp : Prog.AllRets R p) : AllOk R (PE.lift p) := by
  unfold PE.lift
  apply Prog.AllRets.bind hp
  intro a ha
  exact .ret _ (fun b hb => by cases hb; exact ha)

end

theorem AllOk.foldlM {α β : Type} {Inv : β → Prop} (f : β → α → PE β) :
    ∀ (l : List α) (b : β), Inv b → (∀ b a, a ∈ l → Inv b → AllOk Inv (f b a)) → AllOk Inv (List.foldlM f b l) := by
  intro l
  induction l with
  | nil => intro b hb _; exact AllOk.pure hb
  | cons a rest ih =>
    intro b hb hstep
    rw [foldlM_cons]
    apply AllOk.bind (hstep b a (by simp) hb)
    intro b' hb'
    exact ih b' hb' (fun b a ha => hstep b a (List.mem_cons_of_mem _ ha))

/-- invariant indexed by the prefix already processed -/
theorem AllOk.foldlM_prefix {α β : Type} {Inv : List α → β → Prop} (f : β → α → PE β)
    (hstep : ∀ pre a b, Inv pre b → AllOk (Inv (pre ++ [a])) (f b a)) :
    ∀ (l pre : List α) (b : β), Inv pre b → AllOk (Inv (pre ++ l)) (List.foldlM f b l) := by
  intro l
  induction l with
  | nil => intro pre b hb; rw [List.append_nil]; exact AllOk.pure hb
  | cons a rest ih =>
    intro pre b hb
    rw [foldlM_cons]
    apply AllOk.bind (hstep pre a b hb)
    intro b' hb'
    have := ih (pre ++ [a]) b' hb'
    rwa [List.append_assoc, List.singleton_append] at this

def IsError {ε α : Type} : Except ε α → Prop
  | .error _ => True
  | .ok _ => False

theorem allRets_fail {α : Type} (m : String) : AllRets IsError (PE.fail m : PE α) := .ret _ True.intro
theorem allRets_throw {α : Type} (e : Err) : AllRets IsError (PE.throw e : PE α) := .ret _ True.intro

theorem allRets_bind_error {α β : Type} {p : PE α} {f : α → PE β} (hp : AllRets IsError p) :
    AllRets IsError (PE.bind p f) := by
  refine AllRets.bind hp (fun r hr => ?_)
  cases r with
  | ok a => exact hr.elim
  | error e => exact .ret _ True.intro

theorem noQ_bind_of_error {α β : Type} {Q : Req → Prop} {p : PE α} {f : α → PE β}
    (hp : NoQ Q p) (he : AllRets IsError p) : NoQ Q (PE.bind p f) := by
  refine AllCalls.bind_rets hp he (fun r hr => ?_)
  cases r with
  | ok a => exact hr.elim
  | error e => exact .ret _

def Avoids {α : Type} (E : Err → Prop) (p : PE α) : Prop := AllRets (fun r => ∀ e, r = .error e → ¬ E e) (p : Prog _)

def isPanic (e : Err) : Prop := ∃ m, e = .panic m

abbrev NoPanic {α : Type} (p : PE α) : Prop := Avoids isPanic p

/-- the errors a sync makes up itself: plain failures and - where `tm` - the 429 of a hook; never a panic -/
def OwnErr (tm : Bool) (e : Err) : Prop := (∃ m, e = .fail m) ∨ (tm = true ∧ ∃ n, e = .tooMany n)

abbrev SatE {α : Type} (P : Req → Prop) (tm : Bool) (p : PE α) : Prop :=
  Prog.Sat P (fun r => ∀ e, r = .error e → OwnErr tm e) p

section
variable {α β : Type} {P : Req → Prop} {tm : Bool}

theorem sat_pure (a : α) : SatE P tm (Pure.pure a : PE α) := .ret (fun _ h => by cases h)

theorem sat_throw (e : Err) (he : OwnErr tm e) : SatE P tm (PE.throw e : PE α) :=
  .ret (fun _ h => by cases h; exact he)

theorem sat_fail (m : String) : SatE P tm (PE.fail m : PE α) := sat_throw _ (.inl ⟨m, rfl⟩)

theorem sat_tooMany (n : Int) : SatE P true (PE.throw (.tooMany n) : PE α) := sat_throw _ (.inr ⟨rfl, n, rfl⟩)

theorem sat_ofExcept (e : Except String α) : SatE P tm (PE.ofExcept e) := by
  cases e
  · exact sat_fail _
  · exact sat_pure _

theorem sat_lift {p : Prog α} (h : AllCalls P p) : SatE P tm (PE.lift p) :=
  (Sat.of_calls h).bind (fun a _ => sat_pure a)

/-- an error of the first part ends the program: it is an error the first part was allowed to make -/
theorem sat_bind {p : PE α} {f : α → PE β} (hp : SatE P tm p) (hf : ∀ a, SatE P tm (f a)) : SatE P tm (p >>= f) := by
  refine Sat.bind hp (fun r hr => ?_)
  cases r with
  | ok a => exact hf a
  | error e => exact .ret (fun _ h => by cases h; exact hr e rfl)

theorem sat_bind_lift {R : α → Prop} {p : Prog α} {f : α → PE β} (hp : Prog.Sat P R p)
    (hf : ∀ a, R a → SatE P tm (f a)) : SatE P tm (PE.lift p >>= f) := by
  show Prog.Sat _ _ (PE.bind (PE.lift p) f)
  rw [bind_lift]
  exact hp.bind hf

/-- `let x ← PE.lift (Prog.request r); f x` -/
theorem sat_call {r : Req} {f : Resp → PE β} (hr : P r) (hf : ∀ x, SatE P tm (f x)) :
    SatE P tm (PE.lift (Prog.request r) >>= f) :=
  Sat.call hr hf

theorem sat_foldlM (f : β → α → PE β) :
    ∀ (xs : List α) (init : β), (∀ b, ∀ x ∈ xs, SatE P tm (f b x)) → SatE P tm (xs.foldlM f init)
  | [], _, _ => sat_pure _
  | x :: xs, init, h => by
    rw [List.foldlM_cons]
    exact sat_bind (h init x (List.mem_cons_self ..))
      (fun b => sat_foldlM f xs b (fun b' y hy => h b' y (List.mem_cons_of_mem _ hy)))

theorem sat_forM (f : α → PE PUnit) : ∀ (xs : List α), (∀ x ∈ xs, SatE P tm (f x)) → SatE P tm (xs.forM f)
  | [], _ => sat_pure _
  | x :: xs, h =>
    sat_bind (h x (List.mem_cons_self ..)) (fun _ => sat_forM f xs (fun y hy => h y (List.mem_cons_of_mem _ hy)))

end

def IsErrP {α : Type} (K : Err → Prop) (r : Except Err α) : Prop := ∃ e, r = .error e ∧ K e

abbrev IsErr {α : Type} (r : Except Err α) : Prop := IsErrP (fun _ => True) r

section
variable {K : Err → Prop}

section
variable {α β : Type} {G : Req → Resp → Prop} {Q : Req → Prop} {p : PE α} {f : α → PE β}

/-- in `PE`, stopping composes: after the event the first part ends in an error, so the rest is skipped -/
theorem stops_bind (hp : StopsAfter G Q (IsErrP K) (p : Prog _)) (hf : ∀ a, StopsAfter G Q (IsErrP K) (f a : Prog _)) :
    StopsAfter G Q (IsErrP K) (PE.bind p f : Prog _) := by
  unfold PE.bind
  refine StopsAfter.bind hp ?_ ?_
  · intro r
    cases r with
    | ok a => exact hf a
    | error e => exact .ret _
  · rintro r ⟨e, rfl, he⟩
    exact ⟨.ret _, .ret _ ⟨e, rfl, he⟩⟩

end

theorem stops_mbind {α β : Type} {G : Req → Resp → Prop} {Q : Req → Prop} {p : PE α} {f : α → PE β}
    (hp : StopsAfter G Q (IsErrP K) (p : Prog _)) (hf : ∀ a, StopsAfter G Q (IsErrP K) (f a : Prog _)) :
    StopsAfter G Q (IsErrP K) ((p >>= f : PE β) : Prog _) := stops_bind hp hf

section
variable {α β : Type} {G : Req → Resp → Prop} {Q : Req → Prop}

theorem stops_request_bind (r : Req) (f : Resp → PE β)
    (h0 : ∀ x, AllCalls (fun _ => False) (f x : Prog _)) (hG : ∀ x, G r x → AllRets (IsErrP K) (f x : Prog _)) :
    StopsAfter G Q (IsErrP K) ((PE.lift (Prog.request r) >>= f : PE β) : Prog _) := by
  show StopsAfter G Q (IsErrP K) (Prog.call r (fun x => (f x : Prog _)))
  exact .call r _ (fun x hx => ⟨(h0 x).of_false, hG x hx⟩) (fun x => .of_noG (h0 x).of_false)

theorem stops_bind_lift {R : α → Prop} {p : Prog α} {f : α → PE β}
    (hp : StopsAfter G Q R p) (hf : ∀ a, StopsAfter G Q (IsErrP K) (f a : Prog _))
    (hR : ∀ a, R a → NoQ Q (f a : Prog _) ∧ AllRets (IsErrP K) (f a : Prog _)) :
    StopsAfter G Q (IsErrP K) ((PE.lift p >>= f : PE β) : Prog _) := by
  show StopsAfter G Q (IsErrP K) (PE.bind (PE.lift p) f : Prog _)
  rw [bind_lift]
  exact StopsAfter.bind hp hf hR

theorem stops_forM (step : α → PE PUnit) (h : ∀ x, StopsAfter G Q (IsErrP K) (step x : Prog _)) :
    ∀ (xs : List α), StopsAfter G Q (IsErrP K) ((xs.forM step : PE PUnit) : Prog _)
  | [] => .ret _
  | x :: xs => stops_bind (h x) (fun _ => stops_forM step h xs)

end

end

end PE

theorem allCalls_foldlM_mem {α β : Type} {P : Req → Prop} (step : β → α → Prog β) :
    ∀ (xs : List α) (init : β), (∀ acc, ∀ x ∈ xs, AllCalls P (step acc x)) → AllCalls P (xs.foldlM step init) :=
  AllCalls.foldlM step

theorem allCalls_forM {α : Type} {P : Req → Prop} (step : α → Prog PUnit)
    (h : ∀ x, AllCalls P (step x)) : ∀ (xs : List α), AllCalls P (xs.forM step)
  | [] => .ret _
  | x :: xs => AllCalls.bind (h x) (fun _ => allCalls_forM step h xs)

theorem allCalls_mapM {α β : Type} {P : Req → Prop} (step : α → Prog β)
    (h : ∀ x, AllCalls P (step x)) (xs : List α) : AllCalls P (xs.mapM step) := by
  unfold List.mapM
  generalize ([] : List β) = acc
  induction xs generalizing acc with
  | nil => exact .ret _
  | cons x xs ih => exact AllCalls.bind (h x) (fun b => ih (b :: acc))

end Mc
