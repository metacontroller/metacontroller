import Mc.Proofs.ListMapLemmas
/-
  `merge` preserves well-formedness (unique object keys at every level): `presWF_all`.
  Only the observed and desired values need to be well-formed: nothing flows from last-applied
  into the result.
-/
namespace Mc

theorem mergeItems_inv (mks : List String) (mk : String) (P : J → Prop) (hnull : P .null) (ls : KVs) :
    ∀ (ds : List J) (d merged : KVs),
    (∀ it ∈ ds, ∀ x l m, P x → merge mks x l it = .ok m → P m) →
    (∀ k v, lookup k d = some v → P v) →
    mergeItems mks mk d ls ds = .ok merged →
    ∀ k v, lookup k merged = some v → P v := by
  intro ds
  induction ds with
  | nil =>
    intro d merged _ hd h
    rw [mergeItems_nil] at h; cases h
    exact hd
  | cons it rest ih =>
    intro d merged hstep hd h
    have hstep' : ∀ it' ∈ rest, ∀ x l m, P x → merge mks x l it' = .ok m → P m :=
      fun it' hm' => hstep it' (by simp [hm'])
    cases hc : (rest.map (keyOf mk)).contains (keyOf mk it) with
    | true =>
      rw [mergeItems_cons_skip _ _ _ _ _ _ hc] at h
      exact ih _ _ hstep' hd h
    | false =>
      rw [mergeItems_cons _ _ _ _ _ _ hc] at h
      split at h
      · rename_i m hm
        apply ih _ _ hstep' _ h
        intro k' v' hl
        rw [lookup_setKey] at hl
        split at hl
        · cases hl
          apply hstep it (by simp) _ _ _ _ hm
          cases hlk : lookup (keyOf mk it) d with
          | none => exact hnull
          | some x => exact hd _ x hlk
        · exact hd k' v' hl
      · simp at h

theorem restItems_mem (mk : String) (merged : KVs) : ∀ (ds : List J) (seen : List String) (m : J),
    m ∈ restItems mk merged ds seen → ∃ k, m = (lookup k merged).getD .null := by
  intro ds
  induction ds with
  | nil => intro seen m h; simp [restItems] at h
  | cons it rest ih =>
    intro seen m h
    simp only [restItems] at h
    split at h
    · exact ih _ m h
    · simp only [List.mem_cons] at h
      rcases h with rfl | h
      · exact ⟨_, rfl⟩
      · exact ih _ m h

theorem rebuild_mem (mk : String) (xs : List J) (merged : KVs) (ds : List J) (m : J)
    (h : m ∈ rebuild mk xs merged ds) : ∃ k, m = (lookup k merged).getD .null := by
  unfold rebuild at h
  simp only [List.mem_append, List.mem_filterMap] at h
  rcases h with ⟨x, _, hx⟩ | h
  · exact ⟨keyOf mk x, by rw [hx]; rfl⟩
  · exact restItems_mem mk merged ds _ m h

theorem presWF_all (mks : List String) : ∀ d o l r, o.wfB = true → d.wfB = true → merge mks o l d = .ok r →
    r.wfB = true := by
  intro d
  induction d using J.induct_sub with | _ d ihF ihI =>
  intro o l r ho hd h
  cases merge_ok h with
  | scalar | plainArr => exact hd
  | obj os l d rk _ hf =>
    obtain ⟨huo, hov⟩ := (wfB_obj os).mp ho
    obtain ⟨hud, hdv⟩ := wfB_mem_fields hd
    obtain ⟨hur, hmem⟩ := mem_merged hud huo hf
    refine (wfB_obj _).mpr ⟨hur, fun k v hm => ?_⟩
    rcases hmem k v hm with ⟨dv, hmd, hmm⟩ | hmo
    · exact ihF k dv hmd _ _ v (getD_ind (·.wfB = true) rfl k fun v hl => hov k v (lookup_mem _ _ _ hl)) (hdv k dv hmd) hmm
    · exact hov k v hmo
  | listMap xs l d mk merged _ _ hm =>
    rw [wfB_arr] at ho
    have hP := mergeItems_inv mks mk (fun j => j.wfB = true) rfl _ _ _ merged
      (fun it hit x l' m hx hmm => ihI it hit x l' m hx (wfB_mem_items hd it hit) hmm)
      (fun k v hl => ho v (lookup_prunedMap_some hl).1) hm
    rw [wfB_arr]
    intro m hmr
    obtain ⟨k, rfl⟩ := rebuild_mem _ _ _ _ m hmr
    exact getD_ind (·.wfB = true) rfl k (hP k)

end Mc
