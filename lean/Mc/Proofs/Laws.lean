import Mc.Proofs.C05Hyps
/-
  The "removed / preserved" law of the three-way merge, `laws_all`: a successful merge meets the specification `laws` of
  `Spec/C05`. `lawsFields_of` / `lawsItems_of` reduce the folds of the specification to facts per field / item; the
  structure `LM` carries the facts of the list-map case; `hypO` is `hypJ` on the optional last-applied value.
-/
namespace Mc.C05

def hypO (mks : List String) : Option J → Bool
  | none => true
  | some j => hypJ mks j

theorem lawsFields_of {mks : List String} {rs ls ds : KVs} : ∀ {os : KVs},
    (∀ k ov, (k, ov) ∈ os →
      (∀ dv, lookup k ds = some dv → ∃ rv, lookup k rs = some rv ∧ laws mks rv ov (lookup k ls) dv = true) ∧
      (lookup k ds = none → hasKey k ls = true → hasKey k rs = false) ∧
      (lookup k ds = none → hasKey k ls = false → ∃ rv, lookup k rs = some rv ∧ rv.eqv ov = true)) →
    lawsFields mks rs os ls ds = true := by
  intro os
  induction os with
  | nil => intro _; rw [lawsFields]
  | cons hd tl ih =>
    obtain ⟨k, ov⟩ := hd
    intro h
    rw [lawsFields, Bool.and_eq_true]
    refine ⟨?_, ih (fun k' ov' hm => h k' ov' (by simp [hm]))⟩
    obtain ⟨h1, h2, h3⟩ := h k ov (by simp)
    cases hds : lookup k ds with
    | some dv =>
      obtain ⟨rv, hr, hl⟩ := h1 dv hds
      simp only [hr, hl]
    | none =>
      cases hl : hasKey k ls with
      | true => simp [h2 hds hl]
      | false =>
        obtain ⟨rv, hr, he⟩ := h3 hds hl
        simp [hr, he]

theorem lawsItems_of {mks : List String} {mk : String} {rs ls ds : List J} {survive : J → Bool} : ∀ {xs : List J},
    (∀ x ∈ xs, survive x = true → ∃ ri, findItem mk (keyOf mk x) rs = some ri ∧
      (desItem mk (keyOf mk x) ds = none → ri.eqv x = true) ∧
      (∀ di, desItem mk (keyOf mk x) ds = some di → laws mks ri x (findItem mk (keyOf mk x) ls) di = true)) →
    lawsItems mks mk rs xs ls ds survive = true := by
  intro xs
  induction xs with
  | nil => intro _; rw [lawsItems]
  | cons hd tl ih =>
    intro h
    rw [lawsItems, Bool.and_eq_true]
    refine ⟨?_, ih (fun x hx => h x (by simp [hx]))⟩
    cases hs : survive hd with
    | false => simp
    | true =>
      obtain ⟨ri, hf, h1, h2⟩ := h hd (by simp) hs
      simp only [if_true, hf]
      cases hdi : desItem mk (keyOf mk hd) ds with
      | none => simp only [h1 hdi]
      | some di => simp only [h2 di hdi]

/-- the list-map case of a merge whose observed and desired lists have unique keys: `merged` is the keyed map that
    `rebuild` then turns into the result -/
structure LM (mks : List String) (mk : String) (xs ll ds : List J) (merged : KVs) : Prop where
  hmk : mk ∈ mks
  hallx : Keyed mk xs
  halld : Keyed mk ds
  hnx : (xs.map (keyOf mk)).Nodup
  hnd : (ds.map (keyOf mk)).Nodup
  hsx : ∀ x ∈ xs, scalarKeys mks x = true
  hud : ∀ kvs, J.obj kvs ∈ ds → uniq kvs
  hm : mergeItems mks mk (prunedMap mk xs ll ds) (makeListMap mk ll) ds = .ok merged

/-- the `survive` predicate of `laws` -/
def surviveF (mk : String) (ll ds : List J) : J → Bool :=
  fun it => !((ll.map (keyOf mk)).contains (keyOf mk it) && !(ds.map (keyOf mk)).contains (keyOf mk it))

namespace LM
variable {mks : List String} {mk : String} {xs ll ds : List J} {merged : KVs}

theorem key_kept (h : LM mks mk xs ll ds merged) {it m : J} (hit : it ∈ ds) (hm : lookup (keyOf mk it) merged = some m) :
    keyOf mk m = keyOf mk it := by
  obtain ⟨m', hm', hmm⟩ := (mergeItems_spec h.hnd h.hm).1 it hit
  rw [hm] at hm'
  cases hm'
  obtain ⟨kvs, rfl⟩ := obj_of_hasKey (h.halld it hit)
  exact keyOf_merged h.hmk (partner_ind (scalarKeys mks · = true) rfl h.hsx _) (h.hud kvs hit) (h.halld _ hit) hmm

theorem surv_des (h : LM mks mk xs ll ds merged) {x it : J} (hx : x ∈ xs) (hit : it ∈ ds)
    (he : keyOf mk it = keyOf mk x) :
    ∃ m, lookup (keyOf mk x) merged = some m ∧ keyOf mk m = keyOf mk x ∧
      merge mks x (lookup (keyOf mk x) (makeListMap mk ll)) it = .ok m := by
  obtain ⟨m, hm, hmm⟩ := (mergeItems_spec h.hnd h.hm).1 it hit
  have hc : (ds.map (keyOf mk)).contains (keyOf mk it) = true :=
    List.contains_iff_mem.mpr (List.mem_map_of_mem hit)
  rw [lookup_prunedMap, hc] at hmm
  simp only [Bool.not_true, Bool.and_false, Bool.false_eq_true, if_false] at hmm
  rw [he, lookup_makeListMap_mem h.hnx hx] at hmm
  simp only [Option.getD_some] at hmm
  have hk := h.key_kept hit hm
  rw [he] at hm hk
  exact ⟨m, hm, hk, hmm⟩

theorem surv_nodes (h : LM mks mk xs ll ds merged) {x : J} (hx : x ∈ xs)
    (hs : surviveF mk ll ds x = true) (hk : keyOf mk x ∉ ds.map (keyOf mk)) :
    lookup (keyOf mk x) merged = some x := by
  rw [(mergeItems_spec h.hnd h.hm).2 _ hk, lookup_prunedMap]
  unfold surviveF at hs
  simp only [Bool.not_eq_true'] at hs
  rw [hs]
  simp only [Bool.false_eq_true, if_false]
  exact lookup_makeListMap_mem h.hnx hx

theorem not_surv (h : LM mks mk xs ll ds merged) {x : J}
    (hs : surviveF mk ll ds x = false) : lookup (keyOf mk x) merged = none := by
  unfold surviveF at hs
  simp only [Bool.not_eq_false'] at hs
  have hk : keyOf mk x ∉ ds.map (keyOf mk) := by
    intro hc
    have := List.contains_iff_mem.mpr hc
    rw [this] at hs; simp at hs
  rw [(mergeItems_spec h.hnd h.hm).2 _ hk, lookup_prunedMap, hs]
  simp

theorem new (h : LM mks mk xs ll ds merged) {it : J} (hit : it ∈ ds)
    (hk : keyOf mk it ∉ xs.map (keyOf mk)) : lookup (keyOf mk it) merged = some it := by
  obtain ⟨m, hm, hmm⟩ := (mergeItems_spec h.hnd h.hm).1 it hit
  cases hl : lookup (keyOf mk it) (prunedMap mk xs ll ds) with
  | some v =>
    obtain ⟨hv, hkv⟩ := lookup_prunedMap_some hl
    exact absurd (hkv ▸ List.mem_map_of_mem hv) hk
  | none =>
    rw [hl] at hmm
    simp only [Option.getD_none] at hmm
    rw [merge_scalar rfl rfl] at hmm
    cases hmm
    exact hm

theorem surv (h : LM mks mk xs ll ds merged) {x : J} (hx : x ∈ xs) (hs : surviveF mk ll ds x = true) :
    ∃ m, lookup (keyOf mk x) merged = some m ∧ keyOf mk m = keyOf mk x := by
  by_cases hk : keyOf mk x ∈ ds.map (keyOf mk)
  · rw [List.mem_map] at hk
    obtain ⟨it, hit, he⟩ := hk
    obtain ⟨m, hm, hkm, _⟩ := h.surv_des hx hit he
    exact ⟨m, hm, hkm⟩
  · exact ⟨x, h.surv_nodes hx hs hk, rfl⟩

theorem keys (h : LM mks mk xs ll ds merged) :
    (rebuild mk xs merged ds).map (keyOf mk) =
      (xs.filter (surviveF mk ll ds)).map (keyOf mk) ++
      (ds.map (keyOf mk)).filter (fun k => !(xs.map (keyOf mk)).contains k) := by
  rw [rebuild_eq h.hnd, List.map_append]
  congr 1
  · apply filterMap_map_eq
    intro x hx
    exact ⟨fun hs => h.surv hx hs, fun hs => h.not_surv hs⟩
  · rw [List.filter_map, List.map_map]
    have hf : ds.filter (fun it => !((xs.map (keyOf mk)).contains (keyOf mk it) && hasKey (keyOf mk it) merged)) =
        ds.filter ((fun k => !(xs.map (keyOf mk)).contains k) ∘ keyOf mk) := by
      apply List.filter_congr
      intro it hit
      obtain ⟨m, hm, _⟩ := (mergeItems_spec h.hnd h.hm).1 it hit
      simp [hasKey_of_lookup hm]
    rw [hf]
    apply List.map_congr_left
    intro it hit
    have hit' := (List.mem_filter.mp hit).1
    obtain ⟨m, hm, _⟩ := (mergeItems_spec h.hnd h.hm).1 it hit'
    simp only [Function.comp, hm, Option.getD_some]
    exact h.key_kept hit' hm

theorem nodup_rs (h : LM mks mk xs ll ds merged) : ((rebuild mk xs merged ds).map (keyOf mk)).Nodup := by
  rw [h.keys, List.nodup_append]
  refine ⟨?_, ?_, ?_⟩
  · exact List.Nodup.sublist (List.Sublist.map _ List.filter_sublist) h.hnx
  · exact List.Pairwise.filter _ h.hnd
  · intro a ha b hb
    rw [List.mem_filter] at hb
    rw [List.mem_map] at ha
    obtain ⟨x, hx, rfl⟩ := ha
    have hx' := (List.mem_filter.mp hx).1
    intro e; subst e
    have : (xs.map (keyOf mk)).contains (keyOf mk x) = true :=
      List.contains_iff_mem.mpr (List.mem_map_of_mem hx')
    rw [this] at hb; simp at hb

end LM

theorem hypO_lastObj {mks : List String} {l : Option J} (h : hypO mks l = true) : hypJ mks (.obj (lastObj l)) = true := by
  cases l with
  | none => rfl
  | some lj =>
    cases lj with
    | obj ls => exact h
    | _ => rfl

theorem hypO_lastArr {mks : List String} {l : Option J} (h : hypO mks l = true) : hypJ mks (.arr (lastArr l)) = true := by
  cases l with
  | none => rfl
  | some lj =>
    cases lj with
    | arr ll => exact h
    | _ => rfl

theorem hypO_lookup {mks : List String} {kvs : KVs} (h : hypJ mks (.obj kvs) = true) (k : String) :
    hypO mks (lookup k kvs) = true := by
  cases hl : lookup k kvs with
  | none => rfl
  | some v => exact (hypJ_obj.mp h).2 k v (lookup_mem _ _ _ hl)

theorem hypO_findItem {mks : List String} {xs : List J} (h : hypJ mks (.arr xs) = true) (mk k : String) :
    hypO mks (findItem mk k xs) = true := by
  cases hf : findItem mk k xs with
  | none => rfl
  | some v => exact (hypJ_arr.mp h).2 v (List.mem_of_find?_eq_some hf)

theorem laws_scalar_o {mks : List String} {r o : J} {l : Option J} {d : J}
    (h1 : o.isObj = false) (h2 : o.isArr = false) : laws mks r o l d = r.eqv d := by
  cases o <;> simp [J.isObj, J.isArr] at h1 h2 <;> simp [laws]

theorem laws_arr_none {mks : List String} {r : J} {xs : List J} {l : Option J} {d : J}
    (hdk : (d.isArr || d.isNull) = true)
    (hdet : detectListMapKey mks [xs, lastArr l, d.items] = none) :
    laws mks r (.arr xs) l d = r.eqv d := by
  rw [laws, hdk]; simp only [hdet, Bool.true_and]

theorem laws_all (mks : List String) : ∀ d o l r, hypJ mks o = true → hypO mks l = true → hypJ mks d = true →
    scalarKeys mks o = true → merge mks o l d = .ok r → laws mks r o l d = true := by
  intro d
  induction d using J.induct_sub with | _ d ihF ihI =>
  intro o l r ho hl hd hs h
  have he := J.eqv_refl _ (hypJ_wfB hd)
  cases merge_ok h with
  | scalar _ _ _ h1 h2 => rwa [laws_scalar_o h1 h2]
  | plainArr xs _ _ hk hdet => rwa [laws_arr_none hk hdet]
  | obj os l d rk hk hf =>
    obtain ⟨hu, hdv⟩ := hypJ_fields hd
    obtain ⟨huo, hoi⟩ := hypJ_obj.mp ho
    obtain ⟨h1, h2⟩ := obj_spec hu hf
    rw [laws, hk]
    simp only [Bool.true_and, Bool.and_eq_true, List.all_eq_true, Bool.or_eq_true]
    refine ⟨⟨lawsFields_of fun k ov hm => ?_, fun kv hkv => ?_⟩, fun kv hkv => ?_⟩
    · have hlo := lookup_of_mem_uniq _ _ _ huo hm
      refine ⟨fun dv hdl => ?_, fun hdn hl' => ?_, fun hdn hl' => ⟨ov, ?_, J.eqv_refl ov (hypJ_wfB (hoi k ov hm))⟩⟩
      · have hmd := lookup_mem _ _ _ hdl
        obtain ⟨m, hm1, hm2⟩ := h1 k dv hmd
        rw [hlo] at hm2
        exact ⟨m, hm1, ihF k dv hmd ov _ m (hoi k ov hm) (hypO_lookup (hypO_lastObj hl) k) (hdv k dv hmd)
          (scalarKeys_obj.mp hs |>.2 k ov hm) hm2⟩
      · rw [hasKey_false_iff, h2 k hdn, if_pos hl']
      · rw [h2 k hdn, hl', hlo]
        rfl
    · have hkr : hasKey kv.1 rk = true := hasKey_of_mem (v := kv.2) hkv
      cases hdn : lookup kv.1 d.fields with
      | some dv => exact .inr (hasKey_of_lookup hdn)
      | none =>
        rw [hasKey_eq, h2 _ hdn] at hkr
        split at hkr
        · cases hkr
        · exact .inl hkr
    · cases hko : hasKey kv.1 os with
      | true => exact .inl rfl
      | false =>
        obtain ⟨m, hm1, hm2⟩ := h1 kv.1 kv.2 hkv
        rw [(hasKey_false_iff _ _).mp hko, merge_scalar rfl rfl] at hm2
        cases hm2
        rw [hm1]
        exact .inr (J.eqv_refl _ (hypJ_wfB (hdv kv.1 kv.2 hkv)))
  | listMap xs l d mk merged hk hdet hm =>
    obtain ⟨hmk, hallx, halll, halld⟩ := detect3_some hdet
    have hoi := (hypJ_arr.mp ho).2
    have hdi := hypJ_items hd
    have hnd := nodup_items hd hmk halld
    have hnl := nodup_of_hypJ (hypO_lastArr hl) hmk halll
    have hsx := scalarKeys_arr.mp hs
    have hlm : LM mks mk xs (lastArr l) d.items merged :=
      ⟨hmk, hallx, halld, nodup_of_hypJ ho hmk hallx, hnd, hsx,
        fun kvs hit => (hypJ_obj.mp (hdi _ hit)).1, hm⟩
    rw [laws, hk]
    simp only [Bool.true_and, hdet, Bool.and_eq_true, beq_iff_eq]
    rw [eraseDups_of_nodup _ (List.Pairwise.filter _ hnd)]
    refine ⟨⟨hlm.keys, lawsItems_of fun x hx hs' => ?_⟩, List.all_eq_true.mpr fun k hk' => ?_⟩
    · obtain ⟨m, hm1, hkm⟩ := hlm.surv hx hs'
      have hmr : m ∈ rebuild mk xs merged d.items := by
        rw [rebuild_eq hnd, List.mem_append, List.mem_filterMap]
        exact .inl ⟨x, hx, hm1⟩
      refine ⟨m, ?_, fun hnone => ?_, fun di hdi' => ?_⟩
      · rw [← hkm]
        exact findItem_of_nodup hlm.nodup_rs hmr
      · have := hlm.surv_nodes hx hs' (desItem_none hnone)
        rw [hm1] at this
        cases this
        exact J.eqv_refl _ (hypJ_wfB (hoi _ hx))
      · obtain ⟨hdi1, hdi2⟩ := desItem_some hdi'
        obtain ⟨m', hm', _, hmm⟩ := hlm.surv_des hx hdi1 hdi2
        rw [hm1] at hm'
        cases hm'
        rw [lookup_makeListMap_eq_findItem hnl] at hmm
        exact ihI di hdi1 x _ m (hoi x hx) (hypO_findItem (hypO_lastArr hl) mk _) (hdi di hdi1) (hsx x hx) hmm
    · rw [List.mem_filter, List.mem_map] at hk'
      obtain ⟨⟨it, hit, rfl⟩, hko⟩ := hk'
      have hko' : keyOf mk it ∉ xs.map (keyOf mk) := fun hc => by
        rw [List.contains_iff_mem.mpr hc] at hko
        cases hko
      have hmi := hlm.new hit hko'
      have hmr := mem_rebuild_of_des (xs := xs) hnd hit hmi
      rw [findItem_of_nodup hlm.nodup_rs hmr, desItem_of_nodup hnd hit]
      exact J.eqv_refl _ (hypJ_wfB (hdi it hit))

end Mc.C05
