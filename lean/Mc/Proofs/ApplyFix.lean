import Mc.Proofs.ExtFix
import Mc.Proofs.ObjLemmas
/-
  `ApplyUpdate` leaves an object alone that (a) extends the desired object and (b) carries the desired object as its
  last-applied record: the situation right after metacontroller created the child from that very desired object
  (`applyUpdate_stamped`; `applyUpdate_of_fix` asks for a merge fixpoint in place of (a)).
-/
namespace Mc
open C05

theorem revertField_self_top (os : KVs) (k : String) : revertField (.obj os) (.obj os) [k] = .ok (.obj os) := by
  unfold revertField
  rw [nestedField_obj_one]
  cases h : lookup k os with
  | none => simp [removeNested_top_absent os k h]
  | some v => simp [setNested_top_same os k v h]

theorem revertField_self_meta (os m : KVs) (f : String) (hm : lookup "metadata" os = some (.obj m)) :
    revertField (.obj os) (.obj os) ["metadata", f] = .ok (.obj os) := by
  unfold revertField
  rw [nestedField_obj_two f hm]
  cases h : lookup f m with
  | none => simp [removeNested_meta_absent os m f hm h]
  | some v => simp [setNested_meta_same os m f v hm h]

theorem revertSystemFields_self (sys : List String) (os m : KVs) (hm : lookup "metadata" os = some (.obj m)) :
    revertSystemFields sys (.obj os) (.obj os) = .ok (.obj os) := by
  unfold revertSystemFields
  induction sys with
  | nil => rfl
  | cons f tl ih =>
    rw [List.foldlM_cons, revertField_self_meta os m f hm]
    exact ih

/-- an object as metacontroller finds it after it created it from `des`: it extends `des`, and its (well-formed)
    annotations carry `des` as the last-applied record; `des` does not itself carry that annotation -/
def Stamped (mks : List String) (o des : J) : Prop :=
  ∃ os m am ds, o = .obj os ∧ des = .obj ds ∧ lookup "metadata" os = some (.obj m) ∧ lookup "annotations" m = some (.obj am) ∧
    am.all (fun kv => isStringish kv.1 kv.2) = true ∧ lookup lastAppliedAnnotation am = some des ∧
    nullifyLastApplied des = des ∧ Ext des o ∧ hypJ mks des = true

/-- C01, update path: `ApplyUpdate` is the identity on a merge fixpoint for `des` that records `des` as last-applied -/
theorem applyUpdate_of_fix (mks sys : List String) (o des : J) (os m am : KVs)
    (ho : o = .obj os) (hobj : des.isObj = true) (hmeta : lookup "metadata" os = some (.obj m)) (hann : lookup "annotations" m = some (.obj am))
    (hstr : am.all (fun kv => isStringish kv.1 kv.2) = true) (hla : lookup lastAppliedAnnotation am = some des)
    (hclean : nullifyLastApplied des = des) (hmerge : merge mks o (some des) des = .ok o) :
    applyUpdate mks sys o des = .ok o := by
  have hga : getAnnotations o = some am := by
    unfold getAnnotations stringMapAt
    rw [ho, nestedField_obj_two "annotations" hmeta, hann]
    simp [hstr]
  have hlast : getLastApplied o = .ok (some des) := by
    unfold getLastApplied
    rw [hga]
    simp only [hla]
    cases des <;> simp [J.isObj] at hobj ⊢
  unfold applyUpdate
  simp only [hlast, hclean, bind, Except.bind, hmerge]
  rw [ho, revertSystemFields_self sys os m hmeta]
  simp only [revertField_self_top]
  show Except.ok (setLastApplied (.obj os) des) = Except.ok (.obj os)
  congr 1
  unfold setLastApplied
  rw [← ho, hga]
  simp only [Option.getD_some, setKey_id lastAppliedAnnotation des am hla]
  unfold setStringMapAt
  rw [ho]
  simp only [setNested_meta_same os m "annotations" (.obj am) hmeta hann]

/-- C01, create path: `ApplyUpdate` is the identity on what metacontroller created, for every list of merge keys and of
    system fields -/
theorem applyUpdate_stamped (mks sys : List String) (o des : J) (h : Stamped mks o des) :
    applyUpdate mks sys o des = .ok o := by
  obtain ⟨os, m, am, ds, ho, hd, hmeta, hann, hstr, hla, hclean, hext, hhyp⟩ := h
  exact applyUpdate_of_fix mks sys o des os m am ho (hd ▸ rfl) hmeta hann hstr hla hclean
    (merge_ext_fix mks des hhyp o hext)

end Mc
