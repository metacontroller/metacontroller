import Mc.Json
/-
  The data layer. Induction over a `J` value through its children (`J.induct`, `J.induct_sub`); plain lists (`Nodup` under
  a map, `find?`, a fold rule, splitting at a separator); association lists (`lookup` / `setKey` / `eraseKey` / `hasKey`,
  `uniq`); `andFold_fields` / `andFold_items` (whence `wfB_obj` / `wfB_arr`), reflexivity of `eqv` on well-formed values; `List.lookup` on
  string keys. Core Lean only.
-/
namespace Mc

theorem J.induct (P : J → Prop)
    (hnull : P .null) (hbool : ∀ b, P (.bool b)) (hnum : ∀ n, P (.num n)) (hstr : ∀ s, P (.str s))
    (harr : ∀ xs, (∀ x ∈ xs, P x) → P (.arr xs))
    (hobj : ∀ kvs : KVs, (∀ k v, (k, v) ∈ kvs → P v) → P (.obj kvs)) : ∀ j, P j :=
  J.rec (motive_1 := P) (motive_2 := fun xs => ∀ x ∈ xs, P x)
    (motive_3 := fun kvs => ∀ kv ∈ kvs, P kv.2) (motive_4 := fun kv => P kv.2)
    hnull hbool hnum hstr harr (fun kvs ih => hobj kvs fun k v h => ih (k, v) h)
    (fun _ h => nomatch h) (fun _ _ h1 h2 => List.forall_mem_cons.mpr ⟨h1, h2⟩)
    (fun _ h => nomatch h) (fun _ _ h1 h2 => List.forall_mem_cons.mpr ⟨h1, h2⟩) (fun _ _ h => h)

/-- one case for all kinds of value: `fields` and `items` are empty where they do not apply -/
theorem J.induct_sub (P : J → Prop)
    (h : ∀ d, (∀ k v, (k, v) ∈ d.fields → P v) → (∀ x ∈ d.items, P x) → P d) : ∀ d, P d := by
  intro d
  induction d using J.induct with
  | harr xs ih => exact h _ (fun _ _ hm => by cases hm) ih
  | hobj kvs ih => exact h _ ih (fun _ hm => by cases hm)
  | _ => exact h _ (fun _ _ hm => by cases hm) (fun _ hm => by cases hm)

theorem inj_of_nodup_map {α β : Type} (f : α → β) (l : List α) (hn : (l.map f).Nodup) :
    ∀ x ∈ l, ∀ y ∈ l, f x = f y → x = y := by
  rw [List.Nodup, List.pairwise_map] at hn
  exact fun x hx y hy => List.Pairwise.forall_of_forall_of_flip (R := fun x y => f x = f y → x = y) (fun _ _ _ => rfl)
    (hn.imp fun hne e => absurd e hne) (hn.imp fun hne e => absurd e.symm hne) hx hy

theorem nodup_map_of_rep {α β γ : Type} (f : α → β) (g : α → γ) (l : List α) (hn : (l.map f).Nodup)
    (h : ∀ a ∈ l, ∀ b ∈ l, g a = g b → f a = f b) : (l.map g).Nodup := by
  rw [List.Nodup, List.pairwise_map] at hn ⊢
  exact hn.imp_of_mem fun ha hb hne hg => hne (h _ ha _ hb hg)

theorem find?_of_nodup_map {α β : Type} [BEq β] [LawfulBEq β] (f : α → β) {l : List α} (hn : (l.map f).Nodup) {a : α}
    (hm : a ∈ l) : l.find? (fun x => f x == f a) = some a := by
  cases h : l.find? (fun x => f x == f a) with
  | none => exact absurd (List.find?_eq_none.1 h a hm) (by simp)
  | some q => rw [inj_of_nodup_map f l hn q (List.mem_of_find?_eq_some h) a hm (by simpa using List.find?_some h)]

theorem filterMap_eq_self {α : Type} (f : α → Option α) : ∀ (xs : List α), (∀ x ∈ xs, f x = some x) → xs.filterMap f = xs := by
  intro xs
  induction xs with
  | nil => intro _; rfl
  | cons hd tl ih =>
    intro h
    rw [List.filterMap_cons, h hd (by simp)]
    simp only
    rw [ih (fun x hx => h x (by simp [hx]))]

theorem filterMap_map_eq {α β : Type} (f : α → Option α) (g : α → β) (p : α → Bool) : ∀ (xs : List α),
    (∀ x ∈ xs, (p x = true → ∃ m, f x = some m ∧ g m = g x) ∧ (p x = false → f x = none)) →
    (xs.filterMap f).map g = (xs.filter p).map g := by
  intro xs
  induction xs with
  | nil => intro _; rfl
  | cons hd tl ih =>
    intro h
    have ih' := ih (fun x hx => h x (by simp [hx]))
    cases hp : p hd with
    | true =>
      obtain ⟨m, hm, hg⟩ := (h hd (by simp)).1 hp
      rw [List.filterMap_cons, hm, List.filter_cons_of_pos (by simp [hp])]
      simp only [List.map_cons, hg, ih']
    | false =>
      have hm := (h hd (by simp)).2 hp
      rw [List.filterMap_cons, hm, List.filter_cons_of_neg (by simp [hp])]
      exact ih'

theorem foldl_of_step {α β : Type} (f : β → α → β) (P : β → Prop) (Q : α → Prop) : ∀ (xs : List α) (b : β),
    (∀ a ∈ xs, ∀ b, P b ∨ Q a → P (f b a)) → (P b ∨ ∃ x ∈ xs, Q x) → P (xs.foldl f b) := by
  intro xs
  induction xs with
  | nil =>
    rintro b _ (h | ⟨_, h, _⟩)
    · exact h
    · cases h
  | cons a rest ih =>
    intro b hstep h
    refine ih _ (fun x hx => hstep x (List.mem_cons_of_mem _ hx)) ?_
    rcases h with h | ⟨x, hx, h⟩
    · exact .inl (hstep a List.mem_cons_self b (.inl h))
    · rcases List.mem_cons.1 hx with rfl | hx
      · exact .inl (hstep x List.mem_cons_self b (.inr h))
      · exact .inr ⟨x, hx, h⟩

theorem filter_flatMap_unique {α β : Type} (f : α → List β) (p : β → Bool) (a : α) (ha : ∀ b ∈ f a, p b = true) :
    ∀ (l : List α), l.Nodup → a ∈ l → (∀ x ∈ l, x ≠ a → ∀ b ∈ f x, p b = false) → (l.flatMap f).filter p = f a
  | [], _, h, _ => nomatch h
  | x :: rest, hn, hmem, hp => by
    rw [List.nodup_cons] at hn
    rw [List.flatMap_cons, List.filter_append]
    by_cases hx : x = a
    · subst hx
      have hrest : (rest.flatMap f).filter p = [] := by
        refine List.filter_eq_nil_iff.mpr fun b hb => ?_
        obtain ⟨y, hy, hby⟩ := List.mem_flatMap.mp hb
        rw [hp y (List.mem_cons_of_mem _ hy) (fun e => hn.1 (e ▸ hy)) b hby]
        exact Bool.false_ne_true
      rw [hrest, List.append_nil]
      exact List.filter_eq_self.mpr ha
    · have hnil : (f x).filter p = [] := by
        refine List.filter_eq_nil_iff.mpr fun b hb => ?_
        rw [hp x (List.mem_cons_self ..) hx b hb]
        exact Bool.false_ne_true
      rw [hnil, List.nil_append]
      exact filter_flatMap_unique f p a ha rest hn.2 ((List.mem_cons.mp hmem).resolve_left (Ne.symm hx))
        (fun y hy => hp y (List.mem_cons_of_mem _ hy))

theorem split_first {α : Type} [BEq α] [LawfulBEq α] (c : α) (l1 l2 r1 r2 : List α) (h1 : c ∉ l1) (h2 : c ∉ l2)
    (h : l1 ++ c :: r1 = l2 ++ c :: r2) : l1 = l2 ∧ r1 = r2 := by
  have hp : ∀ l : List α, c ∉ l → ∀ a ∈ l, (a != c) = true := fun l hl a ha => bne_iff_ne.2 fun e => hl (e ▸ ha)
  have e := congrArg (List.takeWhile (· != c)) h
  rw [List.takeWhile_append_of_pos (hp l1 h1), List.takeWhile_append_of_pos (hp l2 h2)] at e
  simp at e
  subst e
  exact ⟨rfl, (List.cons.inj (List.append_cancel_left h)).2⟩

theorem split_last {α : Type} [BEq α] [LawfulBEq α] (c : α) (l1 l2 r1 r2 : List α) (h1 : c ∉ r1) (h2 : c ∉ r2)
    (h : l1 ++ c :: r1 = l2 ++ c :: r2) : l1 = l2 ∧ r1 = r2 := by
  have h' := congrArg List.reverse h
  simp only [List.reverse_append, List.reverse_cons, List.append_assoc, List.singleton_append] at h'
  obtain ⟨e1, e2⟩ := split_first c r1.reverse r2.reverse l1.reverse l2.reverse (by simpa using h1) (by simpa using h2) h'
  exact ⟨List.reverse_inj.1 e2, List.reverse_inj.1 e1⟩

theorem eraseDups_length : ∀ (n : Nat) (ks : List String), ks.length ≤ n →
    ks.eraseDups.length ≤ ks.length ∧ (ks.eraseDups.length = ks.length → ks.Nodup) := by
  intro n
  induction n with
  | zero =>
    intro ks h
    cases ks <;> simp_all
  | succ n ih =>
    intro ks h
    cases ks with
    | nil => simp
    | cons a as =>
      rw [List.eraseDups_cons, List.nodup_cons]
      simp only [List.length_cons, Nat.add_right_cancel_iff] at h ⊢
      have h1 := List.length_filter_le (fun b => !b == a) as
      obtain ⟨h2, h3⟩ := ih (as.filter (fun b => !b == a)) (by omega)
      refine ⟨by omega, fun he => ?_⟩
      have hf : as.filter (fun b => !b == a) = as :=
        List.filter_eq_self.mpr (List.length_filter_eq_length_iff.mp (by omega))
      rw [hf] at h3 he
      refine ⟨fun hmem => ?_, h3 he⟩
      have := List.filter_eq_self.mp hf a hmem
      simp at this

theorem eraseDups_of_nodup : ∀ (ks : List String), ks.Nodup → ks.eraseDups = ks := by
  intro ks
  induction ks with
  | nil => intro _; simp
  | cons a as ih =>
    intro hn
    rw [List.nodup_cons] at hn
    rw [List.eraseDups_cons]
    have hf : as.filter (fun b => !b == a) = as := by
      rw [List.filter_eq_self]; intro b hb
      simp only [Bool.not_eq_true', beq_eq_false_iff_ne]
      intro e; subst e; exact hn.1 hb
    rw [hf, ih hn.2]

theorem nodup_of_eraseDups (ks : List String) : (ks.length == ks.eraseDups.length) = true ↔ ks.Nodup := by
  rw [beq_iff_eq]
  constructor
  · intro h
    exact (eraseDups_length _ ks (Nat.le_refl _)).2 h.symm
  · intro h
    rw [eraseDups_of_nodup ks h]

theorem ite_some_eq_none {α : Type} {a : Prop} [Decidable a] {x : α} {r : Option α} :
    (if a then some x else r) = none ↔ ¬a ∧ r = none := by
  split <;> simp [*]

@[simp] theorem lookup_nil (k : String) : lookup k [] = none := rfl

theorem lookup_cons (k k' : String) (v : J) (rest : KVs) :
    lookup k ((k', v) :: rest) = if k = k' then some v else lookup k rest := rfl

@[simp] theorem lookup_cons_self (k : String) (v : J) (rest : KVs) :
    lookup k ((k, v) :: rest) = some v := by simp [lookup]

theorem lookup_cons_ne (k k' : String) (v : J) (rest : KVs) (h : k ≠ k') :
    lookup k ((k', v) :: rest) = lookup k rest := by simp [lookup, h]

theorem lookup_setKey (k k2 : String) (v : J) (d : KVs) :
    lookup k2 (setKey k v d) = if k2 = k then some v else lookup k2 d := by
  induction d with
  | nil => simp [setKey, lookup]
  | cons hd tl ih =>
    obtain ⟨k', v'⟩ := hd
    by_cases h1 : k = k'
    · subst h1
      by_cases h2 : k2 = k <;> simp [setKey, lookup, h2]
    · by_cases h2 : k2 = k'
      · subst h2
        simp [setKey, lookup, h1, Ne.symm h1]
      · simp [setKey, lookup, h1, h2, ih]

theorem lookup_setKey_same (k : String) (v : J) (d : KVs) : lookup k (setKey k v d) = some v := by
  rw [lookup_setKey, if_pos rfl]

theorem lookup_setKey_other (k k2 : String) (v : J) (d : KVs) (h : k2 ≠ k) :
    lookup k2 (setKey k v d) = lookup k2 d := by
  rw [lookup_setKey, if_neg h]

theorem setKey_id (k : String) (m : J) (d : KVs) (h : lookup k d = some m) : setKey k m d = d := by
  induction d with
  | nil => simp [lookup] at h
  | cons hd tl ih =>
    obtain ⟨k', v'⟩ := hd
    by_cases h1 : k = k'
    · subst h1; simp [lookup] at h; simp [setKey, h]
    · simp [lookup, h1] at h; simp [setKey, h1, ih h]

theorem hasKey_eq (k : String) (kvs : KVs) : hasKey k kvs = (lookup k kvs).isSome := rfl

@[simp] theorem hasKey_nil (k : String) : hasKey k [] = false := rfl

theorem hasKey_true_iff (k : String) (kvs : KVs) : hasKey k kvs = true ↔ ∃ v, lookup k kvs = some v := by
  unfold hasKey
  cases lookup k kvs <;> simp

theorem hasKey_false_iff (k : String) (kvs : KVs) : hasKey k kvs = false ↔ lookup k kvs = none := by
  unfold hasKey
  cases lookup k kvs <;> simp

theorem hasKey_of_lookup {k : String} {kvs : KVs} {v : J} (h : lookup k kvs = some v) : hasKey k kvs = true := by
  simp [hasKey, h]

theorem obj_of_hasKey {mk : String} {it : J} (h : hasKey mk it.fields = true) : ∃ kvs, it = .obj kvs := by
  cases it with
  | obj kvs => exact ⟨kvs, rfl⟩
  | _ => cases h

theorem ne_of_hasKey {kvs : KVs} {k k' : String} (h : hasKey k' kvs = true) (hf : hasKey k kvs = false) : k' ≠ k := by
  intro e
  rw [e, hf] at h
  cases h

theorem getD_ind {m : KVs} (Q : J → Prop) (hnull : Q .null) (k : String) (h : ∀ v, lookup k m = some v → Q v) :
    Q ((lookup k m).getD .null) := by
  cases hl : lookup k m with
  | none => exact hnull
  | some v => exact h v hl

theorem lookup_mem : ∀ (kvs : KVs) (k : String) (v : J), lookup k kvs = some v → (k, v) ∈ kvs := by
  intro kvs
  induction kvs with
  | nil => intro k v h; simp at h
  | cons hd tl ih =>
    obtain ⟨k', v'⟩ := hd
    intro k v h
    by_cases e : k = k'
    · subst e; simp at h; simp [h]
    · rw [lookup_cons_ne _ _ _ _ e] at h
      exact List.mem_cons_of_mem _ (ih k v h)

theorem hasKey_iff_mem_keys (k : String) (kvs : KVs) : hasKey k kvs = true ↔ k ∈ keysOf kvs := by
  induction kvs with
  | nil => simp [keysOf]
  | cons hd tl ih =>
    obtain ⟨k', v'⟩ := hd
    by_cases e : k = k'
    · subst e; simp [hasKey, keysOf]
    · have : hasKey k ((k', v') :: tl) = hasKey k tl := by simp [hasKey, lookup_cons_ne _ _ _ _ e]
      rw [this, ih]; simp [keysOf, e]

theorem lookup_none_of_not_mem_keys : ∀ (kvs : KVs) (k : String), k ∉ keysOf kvs → lookup k kvs = none :=
  fun kvs k h => (hasKey_false_iff k kvs).mp (Bool.eq_false_iff.mpr fun hk => h ((hasKey_iff_mem_keys k kvs).mp hk))

theorem hasKey_of_mem {k : String} {v : J} {kvs : KVs} (h : (k, v) ∈ kvs) : hasKey k kvs = true := by
  rw [hasKey_iff_mem_keys]; simp only [keysOf, List.mem_map]; exact ⟨(k, v), h, rfl⟩

theorem lookup_filter (p : String → Bool) : ∀ (kvs : KVs) (k : String),
    lookup k (kvs.filter (fun kv => p kv.1)) = if p k then lookup k kvs else none := by
  intro kvs
  induction kvs with
  | nil => intro k; simp
  | cons hd tl ih =>
    obtain ⟨k', v'⟩ := hd
    intro k
    rw [List.filter_cons]
    by_cases e : k = k'
    · subst e
      cases hp : p k <;> simp [ih, hp]
    · cases hp : p k' <;> simp [lookup, e, ih]

theorem lookup_eraseKey (k k2 : String) (kvs : KVs) :
    lookup k2 (eraseKey k kvs) = if k2 = k then none else lookup k2 kvs := by
  unfold eraseKey
  rw [lookup_filter (fun x => !(x == k))]
  by_cases h : k2 = k <;> simp [h]

theorem eraseKey_absent (k : String) (kvs : KVs) (h : lookup k kvs = none) : eraseKey k kvs = kvs := by
  unfold eraseKey
  refine List.filter_eq_self.mpr fun kv hm => ?_
  have : kv.1 ≠ k := ne_of_hasKey (hasKey_of_mem (v := kv.2) hm) ((hasKey_false_iff ..).mpr h)
  simp [this]

theorem hasKey_filter (p : String → Bool) (kvs : KVs) (k : String) :
    hasKey k (kvs.filter (fun kv => p kv.1)) = (p k && hasKey k kvs) := by
  unfold hasKey
  rw [lookup_filter]
  cases p k <;> simp

theorem mem_setKey (k : String) (v : J) : ∀ (kvs : KVs) (k' : String) (v' : J), (k', v') ∈ setKey k v kvs → (k', v') = (k, v) ∨ (k', v') ∈ kvs := by
  intro kvs
  induction kvs with
  | nil => intro k' v' h; simp [setKey] at h; exact .inl (by rw [h.1, h.2])
  | cons hd tl ih =>
    obtain ⟨k0, v0⟩ := hd
    intro k' v' h
    by_cases e : k = k0
    · subst e
      rw [setKey, if_pos rfl] at h
      exact (List.mem_cons.mp h).imp_right (List.mem_cons_of_mem _)
    · rw [setKey, if_neg e] at h
      rcases List.mem_cons.mp h with h | h
      · exact .inr (h ▸ List.mem_cons_self ..)
      · exact (ih k' v' h).imp_right (List.mem_cons_of_mem _)

theorem all_setKey (p : String × J → Bool) (k : String) (v : J) (kvs : KVs) (h : kvs.all p = true) (hv : p (k, v) = true) :
    (setKey k v kvs).all p = true := by
  rw [List.all_eq_true] at h ⊢
  intro kv hm
  rcases mem_setKey k v kvs kv.1 kv.2 hm with e | hm'
  · have : kv = (k, v) := e
    rw [this]; exact hv
  · exact h kv hm'

theorem uniqB_iff : ∀ kvs : KVs, uniqB kvs = true ↔ uniq kvs := by
  intro kvs
  induction kvs with
  | nil => simp [uniqB, uniq]
  | cons hd tl ih =>
    obtain ⟨k, v⟩ := hd
    simp only [uniqB, uniq, Bool.and_eq_true, ih, Bool.not_eq_true', hasKey_false_iff]

theorem uniq_iff_nodup (kvs : KVs) : uniq kvs ↔ (keysOf kvs).Nodup := by
  induction kvs with
  | nil => simp [uniq, keysOf]
  | cons hd tl ih =>
    obtain ⟨k, v⟩ := hd
    rw [uniq, ih, ← hasKey_false_iff, ← Bool.not_eq_true, hasKey_iff_mem_keys]
    exact List.nodup_cons.symm

theorem lookup_of_mem_uniq : ∀ (ds : KVs) (k : String) (v : J), uniq ds → (k, v) ∈ ds → lookup k ds = some v := by
  intro ds k v hu h
  obtain ⟨v', hv'⟩ := (hasKey_true_iff k ds).mp (hasKey_of_mem h)
  cases inj_of_nodup_map (fun kv : String × J => kv.1) ds ((uniq_iff_nodup ds).mp hu) _ h _ (lookup_mem _ _ _ hv') rfl
  exact hv'

theorem uniq_filter (p : String × J → Bool) : ∀ kvs : KVs, uniq kvs → uniq (kvs.filter p) :=
  fun kvs h => (uniq_iff_nodup _).mpr (((uniq_iff_nodup kvs).mp h).sublist (List.filter_sublist.map _))

theorem uniq_eraseKey (k : String) (d : KVs) (h : uniq d) : uniq (eraseKey k d) := uniq_filter _ d h

theorem uniq_setKey (k : String) (v : J) : ∀ kvs : KVs, uniq kvs → uniq (setKey k v kvs) := by
  intro kvs
  induction kvs with
  | nil => intro _; simp [setKey, uniq]
  | cons hd tl ih =>
    obtain ⟨k', v'⟩ := hd
    intro ⟨h1, h2⟩
    by_cases e : k = k'
    · subst e; simp only [setKey, if_true]; exact ⟨h1, h2⟩
    · simp only [setKey, e, if_false]
      refine ⟨?_, ih h2⟩
      rw [lookup_setKey_other _ _ _ _ (Ne.symm e)]; exact h1

/-- for an `F` defined by recursion as `p` of the head `&&` `F` of the rest: both hypotheses are then `rfl` -/
theorem andFold_fields {F : KVs → Bool} {p : String → J → Bool} (hnil : F [] = true)
    (hcons : ∀ k v rest, F ((k, v) :: rest) = (p k v && F rest)) :
    ∀ kvs, F kvs = true ↔ ∀ k v, (k, v) ∈ kvs → p k v = true := by
  intro kvs
  induction kvs with
  | nil => simp [hnil]
  | cons hd tl ih =>
    obtain ⟨k, v⟩ := hd
    rw [hcons, Bool.and_eq_true, ih]
    constructor
    · intro ⟨h1, h2⟩ k' v' hm
      rcases List.mem_cons.mp hm with e | hm
      · cases e
        exact h1
      · exact h2 k' v' hm
    · intro h
      exact ⟨h k v (List.mem_cons_self ..), fun k' v' hm => h k' v' (List.mem_cons_of_mem _ hm)⟩

theorem andFold_items {F : List J → Bool} {p : J → Bool} (hnil : F [] = true)
    (hcons : ∀ x rest, F (x :: rest) = (p x && F rest)) :
    ∀ xs, F xs = true ↔ ∀ x ∈ xs, p x = true := by
  intro xs
  induction xs with
  | nil => simp [hnil]
  | cons hd tl ih => simp [hcons, ih]

theorem wfB_obj (kvs : KVs) : (J.obj kvs).wfB = true ↔ uniq kvs ∧ ∀ k v, (k, v) ∈ kvs → v.wfB = true := by
  rw [J.wfB, Bool.and_eq_true, uniqB_iff,
    andFold_fields (p := fun _ v => v.wfB) rfl (fun _ _ _ => rfl)]

theorem wfB_arr (xs : List J) : (J.arr xs).wfB = true ↔ ∀ x ∈ xs, x.wfB = true := by
  rw [J.wfB, andFold_items rfl (fun _ _ => rfl)]

theorem wfB_mem_fields {d : J} (h : d.wfB = true) : uniq d.fields ∧ ∀ k v, (k, v) ∈ d.fields → v.wfB = true := by
  cases d with
  | obj ds => exact (wfB_obj ds).mp h
  | _ => exact ⟨trivial, fun _ _ hm => by cases hm⟩

theorem wfB_mem_items {d : J} (h : d.wfB = true) : ∀ x ∈ d.items, x.wfB = true := by
  cases d with
  | arr ds => exact (wfB_arr ds).mp h
  | _ => exact fun _ hm => by cases hm

theorem C01.wfB_obj_of_fields (o : J) (h : o.wfB = true) : (J.obj o.fields).wfB = true := by
  cases o <;> first | exact h | rfl

theorem wfB_lookup {kvs : KVs} {k : String} {v : J} (h : (J.obj kvs).wfB = true) (hl : lookup k kvs = some v) : v.wfB = true :=
  ((wfB_obj kvs).mp h).2 k v (lookup_mem _ _ _ hl)

theorem wfB_setKey (k : String) (v : J) (kvs : KVs) (h : (J.obj kvs).wfB = true) (hv : v.wfB = true) :
    (J.obj (setKey k v kvs)).wfB = true := by
  obtain ⟨hu, hm⟩ := (wfB_obj kvs).mp h
  refine (wfB_obj _).mpr ⟨uniq_setKey k v kvs hu, ?_⟩
  intro k' v' hmem
  rcases mem_setKey k v kvs k' v' hmem with e | hmem
  · cases e; exact hv
  · exact hm k' v' hmem

theorem wfB_eraseKey (k : String) (kvs : KVs) (h : (J.obj kvs).wfB = true) : (J.obj (eraseKey k kvs)).wfB = true := by
  obtain ⟨hu, hm⟩ := (wfB_obj kvs).mp h
  refine (wfB_obj _).mpr ⟨uniq_filter _ kvs hu, ?_⟩
  intro k' v' hmem
  exact hm k' v' (List.mem_filter.mp hmem).1

theorem eqvList_refl : ∀ xs : List J, (∀ x ∈ xs, x.eqv x = true) → eqvList xs xs = true := by
  intro xs
  induction xs with
  | nil => intro _; rfl
  | cons hd tl ih =>
    intro h
    simp only [eqvList, Bool.and_eq_true]
    exact ⟨h hd (by simp), ih (fun x hx => h x (by simp [hx]))⟩

theorem eqvFields_sub : ∀ (a b : KVs), (∀ k v, (k, v) ∈ a → lookup k b = some v ∧ v.eqv v = true) →
    eqvFields a b = true := by
  intro a
  induction a with
  | nil => intro b _; rfl
  | cons hd tl ih =>
    obtain ⟨k, v⟩ := hd
    intro b h
    obtain ⟨h1, h2⟩ := h k v (by simp)
    simp only [eqvFields, h1, h2, Bool.true_and]
    exact ih b (fun k' v' hm => h k' v' (by simp [hm]))

theorem J.eqv_refl : ∀ j : J, j.wfB = true → j.eqv j = true := by
  intro j
  induction j using J.induct with
  | harr xs ih =>
    intro hw
    rw [wfB_arr] at hw
    simp only [J.eqv]
    exact eqvList_refl xs (fun x hx => ih x hx (hw x hx))
  | hobj kvs ih =>
    intro hw
    rw [wfB_obj] at hw
    simp only [J.eqv, beq_self_eq_true, Bool.true_and]
    exact eqvFields_sub kvs kvs (fun k v hm => ⟨lookup_of_mem_uniq _ _ _ hw.1 hm, ih k v hm (hw.2 k v hm)⟩)
  | _ => intro _; simp [J.eqv]

theorem J.wfB_iff_WF : ∀ j : J, j.wfB = true ↔ j.WF := by
  intro j
  induction j using J.induct with
  | harr xs ih =>
    simp only [J.wfB, J.WF]
    induction xs with
    | nil => simp [wflB, WFl]
    | cons hd tl ih2 =>
      simp only [wflB, WFl, Bool.and_eq_true]
      rw [ih hd (by simp), ih2 (fun x hx => ih x (by simp [hx]))]
  | hobj kvs ih =>
    simp only [J.wfB, J.WF, Bool.and_eq_true, uniqB_iff]
    suffices h : wfsB kvs = true ↔ WFs kvs by rw [h]
    induction kvs with
    | nil => simp [wfsB, WFs]
    | cons hd tl ih2 =>
      obtain ⟨k, v⟩ := hd
      simp only [wfsB, WFs, Bool.and_eq_true]
      rw [ih k v (by simp), ih2 (fun k' v' hx => ih k' v' (by simp [hx]))]
  | _ => simp [J.wfB, J.WF]

theorem beq_str_iff (v : J) (s : String) : (v == J.str s) = true ↔ v = .str s := by
  show J.beq v (.str s) = true ↔ _
  cases v <;> simp [J.beq]

theorem isObj_of_get? {x : J} {k : String} {v : J} (h : x.get? k = some v) : x.isObj = true := by
  cases x <;> simp [J.get?, J.fields] at h ⊢ <;> rfl

theorem filterMap_str (ns : List String) : (ns.map J.str).filterMap J.str? = ns := by
  induction ns with
  | nil => rfl
  | cons n rest ih => exact congrArg (n :: ·) ih

-- `List.lookup` compares keys with `==`; on string keys these say it with `=`

theorem slookup_nil {β : Type} (n : String) : List.lookup n ([] : List (String × β)) = none := rfl

theorem slookup_cons {β : Type} (n a : String) (x : β) (tl : List (String × β)) :
    List.lookup n ((a, x) :: tl) = if n = a then some x else tl.lookup n := by
  rw [List.lookup_cons]
  by_cases h : n = a
  · subst h; simp
  · have : (n == a) = false := by simpa using h
    rw [this]; simp [h]

theorem slookup_eq_lookup (n : String) (l : List (String × J)) : l.lookup n = lookup n l := by
  induction l with
  | nil => rfl
  | cons hd tl ih => rw [slookup_cons, lookup_cons, ih]

theorem slookup_none_of_not_mem {β : Type} (k : String) : ∀ (u : List (String × β)), k ∉ u.map (·.1) → u.lookup k = none :=
  fun _ h => List.lookup_eq_none_iff.mpr fun _ hp => bne_iff_ne.mpr fun e => h (e ▸ List.mem_map_of_mem hp)

theorem slookup_filter_ne {β : Type} (subs : List (String × β)) (k k' : String) :
    (subs.filter (·.1 != k)).lookup k' = if k' = k then none else subs.lookup k' := by
  induction subs with
  | nil => simp
  | cons e rest ih =>
    obtain ⟨a, b⟩ := e
    by_cases hak : a = k
    · subst hak
      by_cases hk : k' = a
      · subst hk; simp [ih]
      · simp [slookup_cons, hk, ih]
    · by_cases hk : k' = k
      · subst hk
        have : ¬ k' = a := fun h => hak h.symm
        simp [slookup_cons, hak, this, ih]
      · simp [slookup_cons, hak, hk, ih]

theorem nodup_keys_concat {β : Type} (l : List (String × β)) (k : String) (v : β)
    (hu : (l.map (·.1)).Nodup) (hl : l.lookup k = none) : ((l ++ [(k, v)]).map (·.1)).Nodup := by
  rw [List.map_append, List.nodup_append]
  refine ⟨hu, List.nodup_cons.2 ⟨nofun, .nil⟩, ?_⟩
  intro a ha b hb hab
  obtain ⟨p, hp, rfl⟩ := List.mem_map.1 ha
  have hb' : b = k := List.mem_singleton.1 hb
  have := List.lookup_eq_none_iff.1 hl p hp
  simp [← hb', ← hab] at this

theorem mem_of_lookup_eq_some {β : Type} {n : String} {o : β} {l : List (String × β)}
    (h : l.lookup n = some o) : (n, o) ∈ l := by
  obtain ⟨l₁, l₂, rfl, _⟩ := List.lookup_eq_some_iff.mp h
  simp

end Mc
