import Mc.Proofs.C05Hyps
/-
  Idempotence of the three-way merge, `merge o l d = ok r → merge r (some d) d = ok r` (`idem_all`), and its diagonal
  `self_merge`: a value merged with itself as last-applied and desired is unchanged.
-/
namespace Mc.C05

theorem rebuild_self (mk : String) (rs ds : List J)
    (hnr : (rs.map (keyOf mk)).Nodup) (hnd : (ds.map (keyOf mk)).Nodup)
    (hsub : ∀ it ∈ ds, keyOf mk it ∈ rs.map (keyOf mk)) :
    rebuild mk rs (makeListMap mk rs) ds = rs := by
  rw [rebuild_eq hnd, filterMap_eq_self _ rs fun x hx => lookup_makeListMap_mem hnr hx,
    List.filter_eq_nil_iff.mpr fun it hit => ?_]
  · exact List.append_nil rs
  · rw [hasKey_makeListMap, List.contains_iff_mem.mpr (hsub it hit)]
    decide

/-- the array case of `self_merge` (`rs = ds`) and of `idem_all` (`rs` rebuilt from `ds` under a key): `hsame` rules out
    that the second merge detects no key and returns `ds` where `rs ≠ ds` -/
theorem second_arr (mks : List String) (rs ds : List J)
    (hr : hypJ mks (.arr rs) = true) (hd : hypJ mks (.arr ds) = true)
    (hitems : ∀ it ∈ ds, ∃ m ∈ rs,
        (∀ mk' ∈ mks, hasKey mk' it.fields = true → keyOf mk' m = keyOf mk' it) ∧
        merge mks m (some it) it = .ok m)
    (hsame : rs = ds ∨ ∃ mk ∈ mks, Keyed mk rs ∧ Keyed mk ds) :
    merge mks (.arr rs) (some (.arr ds)) (.arr ds) = .ok (.arr rs) := by
  simp only [merge_arr, J.isArr, Bool.true_or, if_true, J.items, lastArr]
  cases hdet : detectListMapKey mks [rs, ds, ds] with
  | none =>
    rcases hsame with rfl | ⟨mk, hmk, h1, h2⟩
    · rfl
    · by_cases hne : [rs, ds, ds].flatten = []
      · simp at hne
        rw [hne.1, hne.2]
      · obtain ⟨_, h⟩ := detect_ne_none (lists := [rs, ds, ds]) hmk hne fun it hit => by
          simp at hit
          exact hit.elim (h1 it) (h2 it)
        rw [hdet] at h
        cases h
  | some mk' =>
    obtain ⟨hmk', hallr, _, halld⟩ := detect3_some hdet
    have hnr := nodup_of_hypJ hr hmk' hallr
    have hnd := nodup_of_hypJ hd hmk' halld
    have hkey : ∀ it ∈ ds, ∃ m ∈ rs, keyOf mk' m = keyOf mk' it ∧ merge mks m (some it) it = .ok m := fun it hit => by
      obtain ⟨m, hm, hk, hmm⟩ := hitems it hit
      exact ⟨m, hm, hk mk' hmk' (halld it hit), hmm⟩
    have hfix : mergeItems mks mk' (makeListMap mk' rs) (makeListMap mk' ds) ds = .ok (makeListMap mk' rs) := by
      refine mergeItems_fix mks mk' _ _ ds hnd fun it hit => ?_
      obtain ⟨m, hm, hk, hmm⟩ := hkey it hit
      refine ⟨m, hk ▸ lookup_makeListMap_mem hnr hm, ?_⟩
      rw [lookup_makeListMap_mem hnd hit]
      exact hmm
    have hsub : ∀ it ∈ ds, keyOf mk' it ∈ rs.map (keyOf mk') := fun it hit => by
      obtain ⟨m, hm, hk, _⟩ := hkey it hit
      exact hk ▸ List.mem_map_of_mem hm
    simp only []
    rw [prunedMap_self, hfix, Except.map, rebuild_self mk' rs ds hnr hnd hsub]

theorem self_merge (mks : List String) : ∀ d, hypJ mks d = true → Fix mks d d := by
  intro d
  induction d using J.induct with
  | hobj ds ih =>
    intro hd
    obtain ⟨hu, hdv⟩ := hypJ_obj.mp hd
    exact fix_obj_of rfl hu fun k v hm => ⟨v, lookup_of_mem_uniq _ _ _ hu hm, ih k v hm (hdv k v hm)⟩
  | harr ds ih =>
    intro hd
    exact second_arr mks ds ds hd hd
      (fun it hit => ⟨it, hit, fun _ _ _ => rfl, ih it hit ((hypJ_arr.mp hd).2 it hit)⟩) (.inl rfl)
  | _ =>
    intro _
    exact merge_scalar rfl rfl

/-- idempotence statement for one desired value, quantified over observed / last-applied -/
def Idem (mks : List String) (d : J) : Prop :=
  ∀ o l r, scalarKeys mks o = true → noNullOverArr o d = true → hypJ mks d = true → hypJ mks r = true →
    merge mks o l d = .ok r → merge mks r (some d) d = .ok r

theorem idem_scalar (mks : List String) (d : J) (h1 : d.isObj = false) (h2 : d.isArr = false)
    (h3 : d.isNull = false) : Idem mks d := by
  intro o l r _ _ _ _ h
  cases merge_ok h with
  | scalar => exact merge_scalar h1 h2
  | plainArr _ _ _ hk =>
    rw [h2, h3] at hk
    cases hk
  | obj _ _ _ _ hk =>
    rw [h1, h3] at hk
    cases hk
  | listMap _ _ _ _ _ hk =>
    rw [h2, h3] at hk
    cases hk

theorem idem_all (mks : List String) : ∀ d, Idem mks d := by
  intro d
  induction d using J.induct_sub with | _ d ihF ihI =>
  intro o l r hs hn hd hr h
  cases merge_ok h with
  | scalar | plainArr => exact self_merge mks d hd
  | obj os l d rk hk hf =>
    obtain ⟨hu, hdv⟩ := hypJ_fields hd
    refine fix_obj_of hk hu fun k v hmem => ?_
    obtain ⟨m, hm, hmm⟩ := (obj_spec hu hf).1 k v hmem
    exact ⟨m, hm, ihF k v hmem _ _ m (scalarKeys_field mks os k hs) (noNull_field hn hmem) (hdv k v hmem)
      ((hypJ_obj.mp hr).2 k m (lookup_mem _ _ _ hm)) hmm⟩
  | listMap xs l d mk merged hk hdet hm =>
    cases d with
    | arr ds =>
      simp only [J.items] at hdet hm hr ihI ⊢
      obtain ⟨hmk, hallx, _, halld⟩ := detect3_some hdet
      have hdi := (hypJ_arr.mp hd).2
      have hud : ∀ kvs, J.obj kvs ∈ ds → uniq kvs := fun kvs hit => (hypJ_obj.mp (hdi _ hit)).1
      have hnd := nodup_of_hypJ hd hmk halld
      have hsx := scalarKeys_arr.mp hs
      have h1 := (mergeItems_spec hnd hm).1
      refine second_arr mks _ ds hr hd (fun it hit => ?_) (.inr ⟨mk, hmk, fun m hm' => ?_, halld⟩)
      · obtain ⟨m, hm1, hmm⟩ := h1 it hit
        have hmr := mem_rebuild_of_des (xs := xs) hnd hit hm1
        have hsp := partner_ind (mk := mk) (ll := lastArr l) (ds := ds) (scalarKeys mks · = true) rfl hsx (keyOf mk it)
        refine ⟨m, hmr, ?_, ?_⟩
        · intro mk' hmk' hk'
          obtain ⟨kvs, rfl⟩ := obj_of_hasKey hk'
          exact keyOf_merged hmk' hsp (hud kvs hit) hk' hmm
        · exact ihI it hit _ _ m hsp
            (partner_ind (noNullOverArr · it = true) (noNullOverArr_scalar rfl rfl)
              (fun x hx => noNull_items hn x hx it hit) _)
            (hdi it hit) ((hypJ_arr.mp hr).2 m hmr) hmm
      · rcases mem_rebuild hnd hm hm' with ⟨hax, _⟩ | ⟨it, hit, _, hmm⟩
        · exact hallx m hax
        · obtain ⟨kvs, rfl⟩ := obj_of_hasKey (halld it hit)
          obtain ⟨mkv, rfl, hkeys, _⟩ := merge_obj_keys (hud kvs hit) hmm
          exact hkeys mk (halld _ hit)
    | null => simp [noNullOverArr] at hn
    | _ => cases hk

end Mc.C05
