import Mc.Proofs.Idem
/-
  A fixpoint law of the 3-way merge that the closed-loop convergence argument of C01 needs (`merge_ext_fix`): an
  observed object that *extends* the desired one (has every field the desired object has, with an extending value;
  anything else it has is extra) is left exactly as it is when the desired object is also the last-applied record.
  This is the situation right after a create: the API server stores the request body plus fields of its own.
-/
namespace Mc
open C05

mutual
/-- `Ext d o`: `o` extends `d` -/
def Ext : J → J → Prop
  | .obj ds, o => ∃ os, o = .obj os ∧ ExtF ds os
  | .null, o => o.isArr = false ∧ (o.isObj = true ∨ o = .null)
  | .arr xs, o => o = .arr xs
  | .bool b, o => o = .bool b
  | .num n, o => o = .num n
  | .str s, o => o = .str s
def ExtF : KVs → KVs → Prop
  | [], _ => True
  | (k, v) :: rest, os => (∃ w, lookup k os = some w ∧ Ext v w) ∧ ExtF rest os
end

theorem ExtF_iff (ds os : KVs) : ExtF ds os ↔ ∀ k v, (k, v) ∈ ds → ∃ w, lookup k os = some w ∧ Ext v w := by
  induction ds with
  | nil => simp [ExtF]
  | cons hd tl ih =>
    obtain ⟨k0, v0⟩ := hd
    rw [ExtF, ih]
    constructor
    · rintro ⟨h1, h2⟩ k v hm
      rcases List.mem_cons.mp hm with e | hm
      · cases e
        exact h1
      · exact h2 k v hm
    · intro h
      exact ⟨h k0 v0 (List.mem_cons_self ..), fun k v hm => h k v (List.mem_cons_of_mem _ hm)⟩

theorem merge_ext_fix (mks : List String) : ∀ d : J, hypJ mks d = true → ∀ o, Ext d o → merge mks o (some d) d = .ok o := by
  intro d
  induction d using J.induct with
  | hnull =>
    intro _ o h
    simp only [Ext] at h
    rcases h.2 with ho | rfl
    · cases o <;> simp [J.isObj] at ho
      exact fix_obj_of rfl trivial fun _ _ hm => by cases hm
    · rfl
  | harr xs _ =>
    intro hh o h
    simp only [Ext] at h
    subst h
    exact self_merge mks _ hh
  | hobj ds ih =>
    intro hh o h
    simp only [Ext] at h
    obtain ⟨os, rfl, hext⟩ := h
    obtain ⟨hu, hf⟩ := hypJ_obj.mp hh
    refine fix_obj_of rfl hu fun k v hm => ?_
    obtain ⟨w, hw, he⟩ := (ExtF_iff ds os).mp hext k v hm
    exact ⟨w, hw, ih k v hm (hf k v hm) w he⟩
  | _ =>
    intro _ o h
    simp only [Ext] at h
    subst h
    rfl

end Mc
