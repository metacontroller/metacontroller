import Mc.Props.C01Converge
/-
  C01, closed loop, at the level of `ManageChildren` itself (all groups): a parent that owns nothing yet, plain
  desired children of several kinds, free names, nobody else writing.  First run: every child is created.
  Second run, from a cache showing what the API server then holds: no request, no error.
  Last, the Recreate path for a single child: delete, create, settled (`C01_recreate_child_converges`).
-/
namespace Mc
namespace C01
open Api C05

variable (hook : String → J → Resp)

/-- for one desired group: its entry in the kind table (`hk`) and the hypotheses `hdef hfree hwf hnd hplain` of `C01_create_converges` -/
structure GroupOK (mks : List String) (kt : KindTable) (parentRef : OwnerRef) (s : State) (g : GVK × List (String × J)) (info : KindInfo) : Prop where
  hk : kt.find (gvkAPIVersion g.1) g.1.kind = some info
  hdef : ∀ nd ∈ g.2, (s.defOf (tgtOf info nd.2)).isSome
  hfree : ∀ nd ∈ g.2, s.find (tgtOf info nd.2) = none
  hwf : ∀ nd ∈ g.2, (createBody parentRef nd.2).isNull = false ∧ (getName nd.2 == "") = false ∧ nControllerRefs (createBody parentRef nd.2) ≤ 1
  hnd : (g.2.map (fun nd => tgtOf info nd.2)).Nodup
  hplain : ∀ nd ∈ g.2, ∀ d, s.defOf (tgtOf info nd.2) = some d → ∃ ds dm, nd.2 = .obj ds ∧ PlainChild d (tgtOf info nd.2) ds dm ∧ hypJ mks (.obj ds) = true

/-- the body of the second loop of `manageChildren` for an empty observed map -/
def createStep (mks sys : List String) (children : List ChildRes) (kt : KindTable) (parentRef : OwnerRef)
    (acc : List String × Memo) (g : GVK × List (String × J)) : Prog (List String × Memo) :=
  match kt.find (gvkAPIVersion g.1) g.1.kind with
  | none => pure (acc.1 ++ ["discovery: can't find kind"], acc.2)
  | some info => do
    let (errs, memo) ← updateGroup mks sys children none info g.1.kind parentRef [] g.2 acc.2
    pure (acc.1 ++ errs, memo)

/-- **first run**: every group's children are created; no error; other keys untouched -/
theorem manage_create_loop (mks sys : List String) (children : List ChildRes) (kt : KindTable) (parentRef : OwnerRef) :
    ∀ (desired : ObjMap) (acc : List String × Memo) (s : State), acc.1 = [] →
      (∀ g ∈ desired, ∃ info, GroupOK mks kt parentRef s g info) →
      desired.Pairwise (fun g g' => ∀ info info', kt.find (gvkAPIVersion g.1) g.1.kind = some info → kt.find (gvkAPIVersion g'.1) g'.1.kind = some info' →
        ∀ nd ∈ g.2, ∀ nd' ∈ g'.2, tgtOf info nd.2 ≠ tgtOf info' nd'.2) →
      let r := Prog.runT (W hook) (desired.foldlM (createStep mks sys children kt parentRef) acc) s
      r.1.1 = [] ∧
      (∀ g ∈ desired, ∀ info, kt.find (gvkAPIVersion g.1) g.1.kind = some info → ∀ nd ∈ g.2, ∃ d f, s.defOf (tgtOf info nd.2) = some d ∧
          r.2.find (tgtOf info nd.2) = some (created d (tgtOf info nd.2) (createBody parentRef nd.2) f false)) ∧
      (∀ t, (∀ g ∈ desired, ∀ info, kt.find (gvkAPIVersion g.1) g.1.kind = some info → ∀ nd ∈ g.2, tgtOf info nd.2 ≠ t) → r.2.find t = s.find t) ∧
      (∀ t, r.2.defOf t = s.defOf t) := by
  intro desired
  induction desired with
  | nil =>
    intro acc s ha _ _
    refine ⟨ha, ?_, ?_, ?_⟩
    · intro g hg; cases hg
    · intro t _; rfl
    · intro t; rfl
  | cons g tl ih =>
    intro acc s ha hok hpw
    obtain ⟨info, hg⟩ := hok g (List.mem_cons_self ..)
    rw [List.pairwise_cons] at hpw
    obtain ⟨hhead, hpwtl⟩ := hpw
    have hcons : (g :: tl).foldlM (createStep mks sys children kt parentRef) acc =
        (updateGroup mks sys children none info g.1.kind parentRef [] g.2 acc.2).bind fun r =>
          tl.foldlM (createStep mks sys children kt parentRef) (acc.1 ++ r.1, r.2) :=
      groupLoop_cons_some (γ := GVK × List (String × J)) (fun g => kt.find (gvkAPIVersion g.1) g.1.kind)
        (fun info g m => updateGroup mks sys children none info g.1.kind parentRef [] g.2 m) g tl acc info hg.hk
    rw [hcons, Prog.runT_bind]
    obtain ⟨he, hmade, hframe, hdefs⟩ := createGroup_run hook mks sys children info g.1.kind parentRef g.2 acc.2 s hg.hdef hg.hfree hg.hwf hg.hnd
    generalize Prog.runT (W hook) (updateGroup mks sys children none info g.1.kind parentRef [] g.2 acc.2) s = r1 at he hmade hframe hdefs
    -- the tail groups see a store in which their own keys are as before
    have hok1 : ∀ g' ∈ tl, ∃ info', GroupOK mks kt parentRef r1.2 g' info' := by
      intro g' hg'
      obtain ⟨info', h'⟩ := hok g' (List.mem_cons_of_mem _ hg')
      have hkeep : ∀ nd' ∈ g'.2, r1.2.find (tgtOf info' nd'.2) = s.find (tgtOf info' nd'.2) := by
        intro nd' hnd'
        exact hframe _ (fun nd hnd e => hhead g' hg' info info' hg.hk h'.hk nd hnd nd' hnd' e)
      refine ⟨info', h'.hk, ?_, ?_, h'.hwf, h'.hnd, ?_⟩
      · intro nd' hnd'; rw [hdefs]; exact h'.hdef nd' hnd'
      · intro nd' hnd'; rw [hkeep nd' hnd']; exact h'.hfree nd' hnd'
      · intro nd' hnd' d hd; rw [hdefs] at hd; exact h'.hplain nd' hnd' d hd
    obtain ⟨e2, m2, f2, d2⟩ := ih (acc.1 ++ r1.1.1, r1.1.2) r1.2 (by rw [ha, he]; rfl) hok1 hpwtl
    refine ⟨e2, ?_, ?_, ?_⟩
    · intro g' hg' info' hk' nd' hnd'
      rcases List.mem_cons.mp hg' with rfl | hg'
      · rw [hg.hk] at hk'; cases hk'
        obtain ⟨d, f, hd, hf⟩ := hmade nd' hnd'
        refine ⟨d, f, hd, ?_⟩
        rw [f2 _ (fun g'' hg'' info'' hk'' nd'' hnd'' e => hhead g'' hg'' info info'' hg.hk hk'' nd' hnd' nd'' hnd'' e.symm)]
        exact hf
      · obtain ⟨d, f, hd, hf⟩ := m2 g' hg' info' hk' nd' hnd'
        rw [hdefs] at hd
        exact ⟨d, f, hd, hf⟩
    · intro t ht
      rw [f2 t (fun g' hg' info' hk' nd' hnd' => ht g' (List.mem_cons_of_mem _ hg') info' hk' nd' hnd')]
      exact hframe t (fun nd hnd => ht g (List.mem_cons_self ..) info hg.hk nd hnd)
    · intro t; rw [d2, hdefs]

theorem manage_empty_observed (mks sys : List String) (children : List ChildRes) (kt : KindTable) (parentRef : OwnerRef)
    (desired : ObjMap) (memo : Memo) :
    manageChildren mks sys children none kt parentRef [] desired memo =
      (desired.foldlM (createStep mks sys children kt parentRef) ([], memo)).bind fun b => .ret ([] ++ b.1, b.2) := by
  unfold manageChildren
  rfl

/-- **C01 at the level of `ManageChildren`, create path**: a parent that owns nothing yet; plain desired children of
    any number of kinds under free, pairwise distinct names; nobody else writes.  After the first run every desired
    child exists as created from `createBody` (in particular with the controller reference) and no error was
    reported; a second run from a cache that shows exactly these children is the program `ret ([], memo)`:
    **no request, no error** - convergence in one sync, silence from the second on. -/
theorem C01_manage_create_converges (mks sys : List String) (children : List ChildRes) (kt : KindTable) (parentRef : OwnerRef)
    (desired : ObjMap) (memo memo' : Memo) (s : State)
    (hok : ∀ g ∈ desired, ∃ info, GroupOK mks kt parentRef s g info)
    (hpw : desired.Pairwise (fun g g' => ∀ info info', kt.find (gvkAPIVersion g.1) g.1.kind = some info → kt.find (gvkAPIVersion g'.1) g'.1.kind = some info' →
        ∀ nd ∈ g.2, ∀ nd' ∈ g'.2, tgtOf info nd.2 ≠ tgtOf info' nd'.2))
    (observed' : ObjMap)
    -- the cache of the second sync: the desired children as the API server holds them, and nothing else of these kinds
    (hcache : ∀ g ∈ desired, ∀ info, kt.find (gvkAPIVersion g.1) g.1.kind = some info → ∀ nd ∈ g.2,
        (observed'.group g.1).lookup nd.1 =
          (Prog.runT (W hook) (manageChildren mks sys children none kt parentRef [] desired memo) s).2.find (tgtOf info nd.2))
    (honly : ∀ g' ∈ observed', ∃ info, kt.find (gvkAPIVersion g'.1) g'.1.kind = some info ∧
        ∀ no ∈ g'.2, ((desired.group g'.1).map (·.1)).contains no.1 = true) :
    (Prog.runT (W hook) (manageChildren mks sys children none kt parentRef [] desired memo) s).1.1 = [] ∧
    manageChildren mks sys children none kt parentRef observed' desired memo' = .ret ([], memo') := by
  obtain ⟨he, hmade, _, _⟩ := manage_create_loop hook mks sys children kt parentRef desired ([], memo) s rfl hok hpw
  rw [manage_empty_observed, Prog.runT_bind] at hcache ⊢
  refine ⟨by simpa [Prog.runT] using he, ?_⟩
  refine C01_manage_quiet mks sys children kt parentRef observed' desired memo' ?_ ?_
  · intro g' hg'
    obtain ⟨info, hk, hall⟩ := honly g' hg'
    exact ⟨info, hk, fun no hno => .inr (hall no hno)⟩
  · intro g hg
    obtain ⟨info, hgo⟩ := hok g hg
    refine ⟨info, hgo.hk, ?_⟩
    intro nd hnd
    obtain ⟨d, f, hd, hfound⟩ := hmade g hg info hgo.hk nd hnd
    obtain ⟨ds, dm, hds, hpl, hh⟩ := hgo.hplain nd hnd d hd
    refine ⟨_, (hcache g hg info hgo.hk nd hnd).trans hfound, ?_⟩
    rw [hds]
    exact C01_created_child_is_settled mks sys _ parentRef d _ ds dm f (hds ▸ hpl) hh

/-! One kind, two plain ConfigMaps, empty store: the hypotheses of `C01_manage_create_converges` can be met. -/
section Examples
def exKt' : KindTable := [(("v1", "ConfigMap"), exInfo')]
def exGVK' : GVK := { group := "", version := "v1", kind := "ConfigMap" }
def exMap : ObjMap := [(exGVK', exDesired)]

theorem exDes'_plain (n : String) :
    PlainChild { group := "", resource := "configmaps", namespaced := true, hasStatus := false } (tgtOf exInfo' (exDes' n))
      (exDes' n).fields [("name", .str n), ("namespace", .str "ns1")] := by
  constructor
  case hns =>
    intro _ v hv
    cases hv
    rfl
  all_goals simp [exDes', J.fields, lookup]

example : GroupOK ["name"] exKt' exRef' exS0 (exGVK', exDesired) exInfo' where
  hk := rfl
  hdef := by decide +kernel
  hfree := by decide +kernel
  hwf := by decide +kernel
  hnd := by decide +kernel
  hplain := by
    intro nd hnd d hd
    cases (Option.some.inj hd : _ = d)
    simp only [exDesired, List.mem_cons, List.not_mem_nil, or_false] at hnd
    rcases hnd with rfl | rfl
    · exact ⟨_, _, rfl, exDes'_plain "a", by decide +kernel⟩
    · exact ⟨_, _, rfl, exDes'_plain "b", by decide +kernel⟩

-- the conclusion evaluated on the example: first run without error, second run (cache = what the store holds) silent
example : (Prog.runT (worldStep (fun _ _ => .hookErr "none")) (manageChildren ["name"] ["uid"] [] none exKt' exRef' [] exMap []) exS0).1.1.isEmpty = true := by decide +kernel
example : (match manageChildren ["name"] ["uid"] [] none exKt' exRef' [(exGVK', exObserved)] exMap [] with | .ret x => x.1.isEmpty | _ => false) = true := by decide +kernel
end Examples

theorem delete_live_gone (s : State) (t : Target) (obj : J) (d : ResDef) (hd : s.defOf t = some d) (hf : s.find t = some obj)
    (hu : mstr obj "uid" ≠ "") (hfin : (finalizersRaw obj).isEmpty = true) :
    (s.request .delete t .null (deleteOpts (getUID obj))).2.find t = none := by
  rw [request_find, if_pos rfl]
  simp only [State.request, hd, hf, handle, Api.delete, C02.preFails_deleteOpts obj hu]
  simp [hfin]

/-- **C01, Recreate path, one child**: the observed child differs, the strategy says delete-and-recreate, the child has no
    finalizers; nobody else writes.  Sync 1 deletes it, sync 2 (cache: gone) creates it from the desired object, and for
    sync 3 (cache: the stored object) the decision is "nothing to do". -/
theorem C01_recreate_child_converges (hook : String → J → Resp) (mks sys : List String) (method : String) (parentRef : OwnerRef) (info : KindInfo)
    (obs : J) (ds dm : KVs) (d : ResDef) (s : State)
    (ht : tgtOf info obs = tgtOf info (.obj ds))
    (hd : s.defOf (tgtOf info (.obj ds)) = some d) (hfind : s.find (tgtOf info (.obj ds)) = some obs)
    (hu : mstr obs "uid" ≠ "") (hfin : (finalizersRaw obs).isEmpty = true)
    (hact : updateAct mks sys method obs (.obj ds) = .delete (getUID obs))
    (hwf : (createBody parentRef (.obj ds)).isNull = false ∧ (getName (.obj ds) == "") = false ∧ nControllerRefs (createBody parentRef (.obj ds)) ≤ 1)
    (hplain : PlainChild d (tgtOf info (.obj ds)) ds dm) (hh : hypJ mks (.obj ds) = true) :
    let t := tgtOf info (.obj ds)
    let s1 := (Prog.runT (W hook) (childStep mks sys method t parentRef (some obs) (.obj ds)) s).2
    let s2 := (Prog.runT (W hook) (childStep mks sys method t parentRef none (.obj ds)) s1).2
    s1.find t = none ∧
    (∃ f, s2.find t = some (created d t (createBody parentRef (.obj ds)) f false)) ∧
    ∀ o, s2.find t = some o → childStep mks sys method t parentRef (some o) (.obj ds) = .ret none := by
  intro t s1 s2
  have hs1 : s1 = (s.request .delete t .null (deleteOpts (getUID obs))).2 := by
    show (Prog.runT (W hook) (childStep mks sys method t parentRef (some obs) (.obj ds)) s).2 = _
    simp only [childStep, hact, Prog.runT, W, worldStep]
  have h1 : s1.find t = none := by rw [hs1]; exact delete_live_gone s t obs d hd hfind hu hfin
  have hd1 : s1.defOf t = some d := by rw [hs1, request_defOf]; exact hd
  obtain ⟨_, hpost⟩ := create_free s1 t (createBody parentRef (.obj ds)) d hd1 h1 hwf.1 hwf.2.1 hwf.2.2
  have hs2 : s2 = (s1.request .create t (createBody parentRef (.obj ds)) .null).2 := by
    show (Prog.runT (W hook) (childStep mks sys method t parentRef none (.obj ds)) s1).2 = _
    simp only [childStep, Prog.runT, W, worldStep]
  refine ⟨h1, ⟨s1.fresh, by rw [hs2]; exact hpost⟩, ?_⟩
  intro o ho
  rw [hs2, hpost] at ho
  cases ho
  simp only [childStep]
  rw [C01_created_child_is_settled mks sys method parentRef d t ds dm s1.fresh hplain hh]

end C01
end Mc
