import Mc.Proofs.ManageLemmas
/-
  C12 - failures: `ManageChildren` never stops early, only benign API errors are swallowed, an error of the
  sync means a rate-limited requeue (and a 429 of the hook a delayed one).
-/
namespace Mc.C12
open Prog

/-- **per-child independence** (`C12_manage_collects`, equational form): the loop over the desired children of a group is
    the loop over the rest, followed by the step of this child; the step (`childStep`) is a function of the observed
    object of that name, the desired object, the method, the target and the parent reference only - neither the errors
    collected so far, nor the memo, nor any response received for another child enter it -/
theorem C12_child_independent (mks sys : List String) (children : List ChildRes) (info : KindInfo) (kind : String)
    (parentRef : OwnerRef) (observed : List (String × J)) (name : String) (des : J) (rest : List (String × J)) (memo : Memo) :
    updateGroup mks sys children none info kind parentRef observed ((name, des) :: rest) memo =
      Prog.bind (updateGroup mks sys children none info kind parentRef observed rest memo) (fun acc =>
        Prog.bind (childStep mks sys (getMethod children info.group kind) (tgt info des) parentRef (observed.lookup name) des)
          (fun e => .ret (consErr e acc.1, acc.2))) :=
  updateGroup_cons mks sys children info kind parentRef observed name des rest memo

/-- the same for the delete loop -/
theorem C12_delete_independent (info : KindInfo) (kind : String) (desiredNames : List String) (name : String) (obj : J)
    (rest : List (String × J)) (memo : Memo) :
    deleteGroup info kind desiredNames ((name, obj) :: rest) memo =
      Prog.bind (deleteGroup info kind desiredNames rest memo) (fun acc =>
        Prog.bind (deleteStep (tgt info obj) desiredNames name obj)
          (fun r => .ret ((match r.1 with | some e => s!"can't delete: {e}" :: acc.1 | none => acc.1),
                          (if r.2 then acc.2.erase (memoKey info kind obj) else acc.2)))) :=
  deleteGroup_cons info kind desiredNames name obj rest memo

/-- the requests of `ManageChildren` (dynamic apply), computed from its arguments alone -/
def manageReqs (mks sys : List String) (children : List ChildRes) (kt : KindTable) (parentRef : OwnerRef)
    (observed desired : ObjMap) : List Req :=
  observed.flatMap (fun g => match kt.find (gvkAPIVersion g.1) g.1.kind with
    | none => []
    | some info => deleteGroupReqs info ((desired.group g.1).map (·.1)) g.2) ++
  desired.flatMap (fun g => match kt.find (gvkAPIVersion g.1) g.1.kind with
    | none => []
    | some info => updateGroupReqs mks sys children info g.1.kind parentRef (observed.group g.1) g.2)

/-- **C12_manage_collects**: under dynamic apply `ManageChildren` issues the same requests in the same order on every
    branch - whatever the API server answers (errors included), no child is skipped and nothing stops the loops -/
theorem C12_manage_collects (mks sys : List String) (children : List ChildRes) (kt : KindTable) (parentRef : OwnerRef)
    (observed desired : ObjMap) (memo : Memo) :
    Issues (manageReqs mks sys children kt parentRef observed desired)
      (manageChildren mks sys children none kt parentRef observed desired memo) := by
  rw [manageChildren_eq]
  refine Issues.bind (Issues.groupLoop _ _ _ _ _ fun g _ info _ m => deleteGroup_issues ..) fun a => ?_
  exact Issues.map (Issues.groupLoop _ _ _ _ _ fun g _ info _ m => updateGroup_issues ..) _

/-- a response is swallowed exactly when it is a success or an error whose reason is in the benign list -/
theorem verdict_none_iff (benign : List String) (x : Resp) :
    verdict benign x = none ↔ (x.isErr = false ∨ ∃ e ∈ benign, x = .err e) := by
  cases x <;> simp [verdict, Resp.isErr]

/-- a reported error is the reason the API server gave -/
theorem verdict_some (benign : List String) (x : Resp) (e : String) (h : verdict benign x = some e) :
    x = .err e ∧ e ∉ benign := by
  cases x <;> simp [verdict] at h
  obtain ⟨hb, rfl⟩ := h
  exact ⟨rfl, hb⟩

/-- the errors that each kind of write may swallow -/
def benignOf (r : Req) : List String :=
  match r.verb? with
  | some .delete => ["NotFound"]
  | some .update => ["NotFound", "Conflict"]
  | some .create => ["AlreadyExists"]
  | _ => []

/-- table of `childStep` (dynamic apply): no request and no error; no request and the decision's error; or one
    delete / update / create whose response is judged by `verdict` with, respectively, {NotFound}, {NotFound, Conflict},
    {AlreadyExists} as the only swallowed reasons -/
theorem C12_swallowed_only_benign (mks sys : List String) (method : String) (t : Target) (parentRef : OwnerRef)
    (obs : Option J) (des : J) :
    childStep mks sys method t parentRef obs des = .ret none ∨
    (∃ o e, obs = some o ∧ updateAct mks sys method o des = .error e ∧ childStep mks sys method t parentRef obs des = .ret (some e)) ∨
    (∃ req, childStep mks sys method t parentRef obs des = .call req (fun x => .ret (verdict (benignOf req) x)) ∧
      req.target? = some t ∧
      ((∃ o uid, obs = some o ∧ updateAct mks sys method o des = .delete uid ∧ req = .api .delete t .null (deleteOpts uid)) ∨
       (∃ o body, obs = some o ∧ updateAct mks sys method o des = .update body ∧ req = .api .update t body .null) ∨
       (obs = none ∧ req = .api .create t (createBody parentRef des) .null))) := by
  unfold childStep
  cases obs with
  | none => exact Or.inr (Or.inr ⟨_, rfl, rfl, Or.inr (Or.inr ⟨rfl, rfl⟩)⟩)
  | some o =>
    simp only []
    cases h : updateAct mks sys method o des with
    | none => exact Or.inl rfl
    | error e => exact Or.inr (Or.inl ⟨o, e, rfl, h, rfl⟩)
    | delete uid => exact Or.inr (Or.inr ⟨_, rfl, rfl, Or.inl ⟨o, uid, rfl, h, rfl⟩⟩)
    | update body => exact Or.inr (Or.inr ⟨_, rfl, rfl, Or.inr (Or.inl ⟨o, body, rfl, h, rfl⟩)⟩)

/-- table of `deleteStep`: skipped, or one UID-guarded delete; only NotFound is swallowed; the memo entry is dropped
    exactly on success -/
theorem C12_delete_swallows_notfound (t : Target) (desiredNames : List String) (name : String) (obj : J) :
    deleteStep t desiredNames name obj = .ret (none, false) ∨
    deleteStep t desiredNames name obj =
      .call (.api .delete t .null (deleteOpts (getUID obj))) (fun x => .ret (verdict ["NotFound"] x, !x.isErr)) := by
  unfold deleteStep
  split
  · exact Or.inl rfl
  · split
    · exact Or.inl rfl
    · exact Or.inr rfl

/-- a response is swallowed by the write it answers -/
def Swallowed (rx : Req × Resp) : Prop := verdict (benignOf rx.1) rx.2 = none

/-- the decision for this child is an error (failed merge, unknown method) -/
def DecisionError (mks sys : List String) (method : String) (obs : Option J) (des : J) : Prop :=
  ∃ o e, obs = some o ∧ updateAct mks sys method o des = .error e

theorem childStep_trace (mks sys : List String) (method : String) (t : Target) (parentRef : OwnerRef) (obs : Option J) (des : J)
    (l : List (Req × Resp)) (e : Option String)
    (h : Trace (childStep mks sys method t parentRef obs des) l e) :
    e = none ↔ (¬ DecisionError mks sys method obs des ∧ ∀ rx ∈ l, Swallowed rx) := by
  rcases C12_swallowed_only_benign mks sys method t parentRef obs des with h1 | ⟨o, e', ho, ha, h1⟩ | ⟨req, h1, _, _⟩
  · rw [h1] at h
    obtain ⟨rfl, rfl⟩ := h.ret_inv
    refine ⟨fun _ => ⟨?_, by simp⟩, fun _ => rfl⟩
    rintro ⟨o, e', ho, ha⟩
    subst ho
    simp [childStep, ha] at h1
  · rw [h1] at h
    obtain ⟨rfl, rfl⟩ := h.ret_inv
    exact ⟨fun h' => (by cases h'), fun h' => absurd ⟨o, e', ho, ha⟩ h'.1⟩
  · rw [h1] at h
    obtain ⟨x, l', rfl, h'⟩ := h.call_inv
    obtain ⟨rfl, rfl⟩ := h'.ret_inv
    have hnd : ¬ DecisionError mks sys method obs des := by
      rintro ⟨o, e', rfl, ha⟩
      simp [childStep, ha] at h1
    exact ⟨fun hv => ⟨hnd, List.forall_mem_singleton.mpr hv⟩, fun h => h.2 (req, x) (List.mem_singleton_self _)⟩

/-- **only benign errors are swallowed, group level**: along any branch of the create/update loop (dynamic apply), the loop
    reports no error exactly when no decision was an error and every response was a success or the benign reason of its
    write: NotFound for a delete, NotFound / Conflict for an update, AlreadyExists for a create -/
theorem C12_updateGroup_errors (mks sys : List String) (children : List ChildRes) (info : KindInfo) (kind : String)
    (parentRef : OwnerRef) (observed : List (String × J)) :
    ∀ (desired : List (String × J)) (memo : Memo) (l : List (Req × Resp)) (errs : List String) (memo' : Memo),
    Trace (updateGroup mks sys children none info kind parentRef observed desired memo) l (errs, memo') →
    (errs = [] ↔ ((∀ nd ∈ desired, ¬ DecisionError mks sys (getMethod children info.group kind) (observed.lookup nd.1) nd.2) ∧
                  ∀ rx ∈ l, Swallowed rx)) := by
  intro desired memo l errs memo' h
  rw [updateGroup_eq_collect] at h
  refine collect_errors _ _ _ (fun nd m l r ht => ?_) desired memo l errs memo' h
  obtain ⟨e, hc, rfl⟩ := ht.map_inv
  exact childStep_trace _ _ _ _ _ _ _ _ _ hc

/-- the delete loop reports no error exactly when every response was a success or NotFound -/
theorem C12_deleteGroup_errors (info : KindInfo) (kind : String) (desiredNames : List String) :
    ∀ (observed : List (String × J)) (memo : Memo) (l : List (Req × Resp)) (errs : List String) (memo' : Memo),
    Trace (deleteGroup info kind desiredNames observed memo) l (errs, memo') →
    (errs = [] ↔ ∀ rx ∈ l, Swallowed rx) := by
  intro observed memo l errs memo' h
  rw [deleteGroup_eq_collect] at h
  refine (collect_errors _ (fun _ => True) Swallowed (fun no m l r ht => ?_) observed memo l errs memo' h).trans (by simp)
  obtain ⟨r', hd, rfl⟩ := ht.map_inv
  rcases C12_delete_swallows_notfound (tgt info no.2) desiredNames no.1 no.2 with hs | hs
  · rw [hs] at hd
    obtain ⟨rfl, rfl⟩ := hd.ret_inv
    simp
  · rw [hs] at hd
    obtain ⟨x, l', rfl, h'⟩ := hd.call_inv
    obtain ⟨rfl, rfl⟩ := h'.ret_inv
    simp [Swallowed, benignOf, Req.verb?]

/-- **what `ManageChildren` reports** (dynamic apply): along any branch, the returned error list is empty exactly when
    every kind was found by discovery, no decision was an error (failed merge, unknown method), and every response was a
    success or the benign reason of its write. So a non-benign failure of any single write always surfaces. -/
theorem C12_manage_errors (mks sys : List String) (children : List ChildRes) (kt : KindTable) (parentRef : OwnerRef)
    (observed desired : ObjMap) (memo : Memo) (l : List (Req × Resp)) (errs : List String) (memo' : Memo)
    (h : Trace (manageChildren mks sys children none kt parentRef observed desired memo) l (errs, memo')) :
    errs = [] ↔
      ((∀ g ∈ observed, ∃ info, kt.find (gvkAPIVersion g.1) g.1.kind = some info) ∧
       (∀ g ∈ desired, ∃ info, kt.find (gvkAPIVersion g.1) g.1.kind = some info ∧
          ∀ nd ∈ g.2, ¬ DecisionError mks sys (getMethod children info.group g.1.kind) ((observed.group g.1).lookup nd.1) nd.2) ∧
       ∀ rx ∈ l, Swallowed rx) := by
  rw [manageChildren_eq] at h
  obtain ⟨l1, l2, a, rfl, h1, h2⟩ := h.bind_inv
  obtain ⟨b, h3, hb⟩ := h2.map_inv
  cases hb
  have ha := groupLoop_errors _ _ (fun _ _ => True) Swallowed
    (fun info g m l errs m' ht => (C12_deleteGroup_errors _ _ _ _ m l errs m' ht).trans (by simp)) observed _ l1 a.1 a.2 h1
  have hb := groupLoop_errors _ _ _ Swallowed
    (fun info g m l errs m' ht => C12_updateGroup_errors mks sys children info g.1.kind parentRef _ g.2 m l errs m' ht)
    desired _ l2 b.1 b.2 h3
  simp only [List.append_eq_nil_iff, ha, hb, true_and, and_true, List.forall_mem_append]
  exact ⟨fun ⟨⟨ho, hl1⟩, hd, hl2⟩ => ⟨ho, hd, hl1, hl2⟩, fun ⟨ho, hd, hl1, hl2⟩ => ⟨⟨ho, hl1⟩, hd, hl2⟩⟩

/-- the work queue sees an error (rate-limited requeue) exactly when the sync ended with a plain failure -/
theorem C12_error_means_requeue (r : SyncRes) :
    (finalOf r).outcome = .error ↔ ∃ m, r.result = .error (.fail m) := by
  unfold finalOf
  cases hr : r.result with
  | ok u => cases u; simp
  | error e => cases e <;> simp

theorem C12_error_keeps_after (r : SyncRes) (m : String) (h : r.result = .error (.fail m)) :
    finalOf r = { outcome := .error, after := r.after, memo := r.memo } := by
  simp [finalOf, h]

/-- a 429 of the hook is not an error for the queue: the key is forgotten and re-added after the delay the hook asked
    for (seconds → milliseconds), after the delays already queued -/
theorem C12_tooMany_requeue_after (r : SyncRes) (n : Int) (h : r.result = .error (.tooMany n)) :
    (finalOf r).outcome = .ok ∧ (finalOf r).after = r.after ++ [n * 1000] ∧ (finalOf r).memo = r.memo := by
  simp [finalOf, h]

theorem C12_ok_outcome (r : SyncRes) (h : r.result = .ok ()) :
    finalOf r = { outcome := .ok, after := r.after, memo := r.memo } := by
  simp [finalOf, h]

/-- a panic outcome only comes from a panic result -/
theorem C12_panic_iff (r : SyncRes) : (finalOf r).outcome = .panic ↔ ∃ m, r.result = .error (.panic m) := by
  unfold finalOf
  cases hr : r.result with
  | ok u => cases u; simp
  | error e => cases e <;> simp

/-- the composite hook call: one hook request; a 429 becomes `tooMany` -/
theorem C12_composite_429 (c : Cfg) (parent : J) (observed related : ObjMap) :
    ∃ req k, callHookComposite c parent observed related = Prog.call req k ∧ req.isHook = true ∧
      ∀ n, k (.hook429 n) = .ret (.error (.tooMany n)) := by
  unfold callHookComposite
  exact ⟨_, _, rfl, rfl, fun n => rfl⟩

/-- the decorator hook call: a 429 is a plain failure (rate-limited requeue, the delay is ignored) -/
theorem C12_decorator_429 (c : DCfg) (parent : J) (observed related : ObjMap) :
    ∃ req k, callHookDecorator c parent observed related = Prog.call req k ∧ req.isHook = true ∧
      ∀ n, ∃ m, k (.hook429 n) = .ret (.error (.fail m)) := by
  unfold callHookDecorator
  exact ⟨_, _, rfl, rfl, fun n => ⟨_, rfl⟩⟩

example : (finalOf { after := [5000], memo := [], result := .error (.tooMany 3) }).after = [5000, 3000] := by decide +kernel
example : Swallowed (.api .update ⟨"g", "r", "ns", "n"⟩ .null .null, .err "Conflict") := by
  simp [Swallowed, benignOf, Req.verb?, verdict]
example : ¬ Swallowed (.api .create ⟨"g", "r", "ns", "n"⟩ .null .null, .err "Conflict") := by
  simp [Swallowed, benignOf, Req.verb?, verdict]
example : ¬ Swallowed (.api .delete ⟨"g", "r", "ns", "n"⟩ .null .null, .err "Conflict") := by
  simp [Swallowed, benignOf, Req.verb?, verdict]

-- a concrete `ManageChildren`: the two requests are fixed in advance, and a Forbidden on the first does not stop the second
def exInfo : KindInfo := { group := "", resource := "configmaps", namespaced := true }
def exKt : KindTable := [(("v1", "ConfigMap"), exInfo)]
def exGVK : GVK := { group := "", version := "v1", kind := "ConfigMap" }
def exRef : OwnerRef :=
  { apiVersion := "ex/v1", kind := "P", name := "p", uid := "u-p", controller := some true, blockOwnerDeletion := some true }
def exObs : J := .obj [("apiVersion", .str "v1"), ("kind", .str "ConfigMap"),
  ("metadata", .obj [("name", .str "old"), ("namespace", .str "ns"), ("uid", .str "u-old")])]
def exDes : J := .obj [("apiVersion", .str "v1"), ("kind", .str "ConfigMap"),
  ("metadata", .obj [("name", .str "new"), ("namespace", .str "ns")])]

example : manageReqs ["name"] ["uid"] [] exKt exRef [(exGVK, [("ns/old", exObs)])] [(exGVK, [("ns/new", exDes)])] =
    [.api .delete ⟨"", "configmaps", "ns", "old"⟩ .null (deleteOpts "u-old"),
     .api .create ⟨"", "configmaps", "ns", "new"⟩ (createBody exRef exDes) .null] := rfl

-- the branch where the delete is refused and the create succeeds: one error is reported
example : Trace (manageChildren ["name"] ["uid"] [] none exKt exRef [(exGVK, [("ns/old", exObs)])] [(exGVK, [("ns/new", exDes)])] [])
    [(.api .delete ⟨"", "configmaps", "ns", "old"⟩ .null (deleteOpts "u-old"), .err "Forbidden"),
     (.api .create ⟨"", "configmaps", "ns", "new"⟩ (createBody exRef exDes) .null, .obj .null)]
    (["can't delete: Forbidden"], []) :=
  .call _ _ _ _ _ (.call _ _ _ _ _ (.ret _))

-- the branch where the delete hits NotFound and the create AlreadyExists: nothing is reported
example : Trace (manageChildren ["name"] ["uid"] [] none exKt exRef [(exGVK, [("ns/old", exObs)])] [(exGVK, [("ns/new", exDes)])] [])
    [(.api .delete ⟨"", "configmaps", "ns", "old"⟩ .null (deleteOpts "u-old"), .err "NotFound"),
     (.api .create ⟨"", "configmaps", "ns", "new"⟩ (createBody exRef exDes) .null, .err "AlreadyExists")]
    ([], []) :=
  .call _ _ _ _ _ (.call _ _ _ _ _ (.ret _))

end Mc.C12
