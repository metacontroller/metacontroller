import Mc.Proofs.RollingLemmas
import Mc.Proofs.JsonLemmas
import Mc.Proofs.ClaimsLemmas
/-
  C07 - rolling updates move one child per sync, in hook order, gated on health.
  Theorems about `gatedMove` (second loop of `syncRollingUpdate`), `shouldContinueRolling` and
  `childHappy`, for every configuration, every list of revisions, every claim map and every
  hook result (no bound on sizes); then the rollout condition written into the parent status
  (`setCondition`) and the claim filtering of `syncRevisionClaims` (specification in
  `Mc/Proofs/ClaimsLemmas.lean`).
-/
namespace Mc.C07

/-- a child of the latest hook result that still has to move: its kind rolls and revision 0 does not claim it -/
def pending (c : Cfg) (cl : Claims) (child : J) : Bool :=
  c.isRolling (apiGroup (getAPIVersion child)) (getKind child) &&
  !(cl.get (apiGroup (getAPIVersion child)) (getKind child) (getName child) == some 0)

/-- the first pending child, in the order the hook returned the children -/
def firstPending (c : Cfg) (cl : Claims) (children : List J) : Option J :=
  children.find? (pending c cl)

/-- the revisions after `(g, k, n)` moved to the latest one: added at index 0, removed everywhere else -/
abbrev moveChild (prs : List PRev) (g k n : String) : List PRev :=
  prs.mapIdx (fun i p =>
    if i == 0 then { p with children := addChild p.children g k n }
    else { p with children := removeChild p.children g k n })

abbrev moveOf (prs : List PRev) (child : J) : List PRev :=
  moveChild prs (apiGroup (getAPIVersion child)) (getKind child) (getName child)

/-- `status.observedGeneration` as `childHappy` reads it -/
def observedGen (child : J) : Int :=
  match nestedField child ["status", "observedGeneration"] with
  | .ok (some (.num n)) => n
  | _ => 0

theorem pending_iff (c : Cfg) (cl : Claims) (child : J) :
    pending c cl child = true ↔
      c.isRolling (apiGroup (getAPIVersion child)) (getKind child) = true ∧
      cl.get (apiGroup (getAPIVersion child)) (getKind child) (getName child) ≠ some 0 := by
  simp [pending]

theorem firstPending_some_iff (c : Cfg) (cl : Claims) (children : List J) (child : J) :
    firstPending c cl children = some child ↔
      pending c cl child = true ∧
      ∃ before after, children = before ++ child :: after ∧ ∀ x ∈ before, pending c cl x = false := by
  unfold firstPending
  rw [List.find?_eq_some_iff_append]
  simp

theorem firstPending_none_iff (c : Cfg) (cl : Claims) (children : List J) :
    firstPending c cl children = none ↔
      ∀ child ∈ children, c.isRolling (apiGroup (getAPIVersion child)) (getKind child) = true →
        cl.get (apiGroup (getAPIVersion child)) (getKind child) (getName child) = some 0 := by
  rw [firstPending, List.find?_eq_none]
  refine forall₂_congr fun child _ => ?_
  rw [pending_iff, not_and, Classical.not_not]

theorem gatedMove_cases (c : Cfg) (obsRel : ObjMap) (prs : List PRev) (cl : Claims) (children : List J) :
    gatedMove c obsRel prs cl children =
      match firstPending c cl children with
      | none => (prs, condJ "True" "OnLatestRevision" s!"latest ControllerRevision: {(prs.headD default).name}")
      | some child =>
        match shouldContinueRolling c (prs.headD default) obsRel with
        | some msg => (prs, condJ "False" "RolloutWaiting" msg)
        | none => (moveOf prs child, condJ "False" "RolloutProgressing" s!"updating {getKind child} {getName child}") := by
  induction children with
  | nil => rfl
  | cons child rest ih =>
    rw [gatedMove, firstPending, List.find?_cons, pending]
    cases c.isRolling (apiGroup (getAPIVersion child)) (getKind child) with
    | false => exact ih
    | true =>
      cases cl.get (apiGroup (getAPIVersion child)) (getKind child) (getName child) == some 0 with
      | true => exact ih
      | false => cases shouldContinueRolling c (prs.headD default) obsRel <;> rfl

/-! A small concrete configuration for the examples.
`String.splitOn` (inside `apiGroup`) does not reduce in the kernel, so the examples keep the API group of
`v1` objects symbolic as `apiGroup "v1"`; everything else is concrete. -/
namespace Ex

def ch0 : ChildRes :=
  { apiVersion := "v1", resource := "pods", kind := "Pod", namespaced := true, hasStatus := true,
    method := some "RollingRecreate" }

def chInPlace : ChildRes := { ch0 with method := some "RollingInPlace" }

def cfg0 : Cfg :=
  { name := "cc", parentGroup := "ctl.example.com", parentVersion := "v1", parentKind := "Thing",
    parentResource := "things", parentNamespaced := true, parentHasStatus := true, children := [ch0],
    generateSelector := true, parentSelector := none, finalize := false, customize := false, ssa := false,
    fieldPaths := [] }

def core : String := apiGroup "v1"

def pod (n : String) : J :=
  .obj [("apiVersion", .str "v1"), ("kind", .str "Pod"), ("metadata", .obj [("name", .str n)])]

/-- an observed pod that already carries the desired state `pod n` -/
def podObs (n : String) : J :=
  .obj [("apiVersion", .str "v1"), ("kind", .str "Pod"),
        ("metadata", .obj [("name", .str n), ("annotations", .obj [(lastAppliedAnnotation, pod n)])])]

/-- up to date, but `status.observedGeneration` lags behind `metadata.generation` -/
def podStale (n : String) : J :=
  .obj [("apiVersion", .str "v1"), ("kind", .str "Pod"),
        ("metadata", .obj [("name", .str n), ("generation", .num 2),
                           ("annotations", .obj [(lastAppliedAnnotation, pod n)])]),
        ("status", .obj [("observedGeneration", .num 1)])]

def objs (grp : String) (os : List (String × J)) : ObjMap := [(⟨grp, "v1", "Pod"⟩, os)]

def rev (gs : List CGroup) (des : ObjMap) : PRev := { (default : PRev) with children := gs, desired := des }

/-- the hook returns `a`, `b`, `c` in this order -/
def kids : List J := [pod "a", pod "b", pod "c"]
def desired0 : ObjMap := objs core [("a", pod "a"), ("b", pod "b"), ("c", pod "c")]
/-- revision 0 claims `a`, revision 1 claims `b` and `c` -/
def prs1 : List PRev := [rev [⟨core, "Pod", ["a"]⟩] desired0, rev [⟨core, "Pod", ["b", "c"]⟩] []]
def cl1 : Claims := [((claimKey core "Pod", "a"), 0), ((claimKey core "Pod", "b"), 1), ((claimKey core "Pod", "c"), 1)]
def clDone : Claims := [((claimKey core "Pod", "a"), 0), ((claimKey core "Pod", "b"), 0), ((claimKey core "Pod", "c"), 0)]
def obsHappy : ObjMap := objs core [("a", podObs "a")]

theorem pod_av (n : String) : getAPIVersion (pod n) = "v1" := rfl
theorem pod_kind (n : String) : getKind (pod n) = "Pod" := rfl
theorem pod_name (n : String) : getName (pod n) = n := rfl
theorem cfg0_strategy : cfg0.strategy core "Pod" = some ch0 := by
  simp [Cfg.strategy, cfg0, ChildRes.group, ch0, core]
theorem cfg0_rolling : cfg0.isRolling (apiGroup "v1") "Pod" = true := by
  have := cfg0_strategy
  unfold core at this
  simp [Cfg.isRolling, this, isRollingMethod, ch0]

/-- hook order: `a` is skipped (revision 0 has it), `b` comes before `c` -/
theorem first1 : firstPending cfg0 cl1 kids = some (pod "b") := by
  simp [firstPending, pending, kids, pod_av, pod_kind, pod_name, cfg0_rolling, cl1, Claims.get, core]
theorem firstDone : firstPending cfg0 clDone kids = none := by
  simp [firstPending, pending, kids, pod_av, pod_kind, pod_name, cfg0_rolling, clDone, Claims.get, core]

/-- nothing observed: the claimed child `a` is missing, the gate is closed -/
theorem gate_closed : shouldContinueRolling cfg0 (prs1.headD default) [] = some "missing child Pod a" := by
  simp [shouldContinueRolling, prs1, rev, cfg0_strategy, ch0, isRollingMethod, childHappy, ObjMap.findGK]
  rfl

theorem happy_any (grp : String) (des : List (String × J)) :
    childHappy cfg0 ch0 (objs grp [("a", podObs "a")]) (objs grp (("a", pod "a") :: des)) ⟨grp, "Pod", ["a"]⟩ "a" = none := by
  have h1 : (objs grp [("a", podObs "a")]).findGK grp "Pod" "a" = some (podObs "a") := by
    simp [ObjMap.findGK, objs, List.lookup]
  have h2 : (objs grp (("a", pod "a") :: des)).findGK grp "Pod" "a" = some (pod "a") := by
    simp [ObjMap.findGK, objs, List.lookup]
  rw [childHappy, h1, h2]
  simp only [Option.getD_some]
  decide +kernel

end Ex
open Ex

/-- the gate is open exactly when every child the latest revision claims, of a rolling kind, is happy -/
theorem C07_gate (c : Cfg) (latest : PRev) (obsRel : ObjMap) :
    shouldContinueRolling c latest obsRel = none ↔
      ∀ g ∈ latest.children, ∀ st, c.strategy g.apiGroup g.kind = some st → isRollingMethod st.method = true →
        ∀ n ∈ g.names, childHappy c st obsRel latest.desired g n = none := by
  rw [shouldContinueRolling, List.findSome?_eq_none_iff]
  refine forall₂_congr fun g _ => ?_
  cases c.strategy g.apiGroup g.kind with
  | none => simp
  | some st =>
    cases hm : isRollingMethod st.method with
    | false => simp [hm]
    | true => simp [hm, List.findSome?_eq_none_iff]

/-- a claimed child is happy when it exists, is up to date with the latest desired state, has observed its
    spec (RollingInPlace only) and passes the configured status checks -/
theorem C07_child_happy (c : Cfg) (st : ChildRes) (obsRel des : ObjMap) (g : CGroup) (n : String) :
    childHappy c st obsRel des g n = none ↔
      ∃ child, obsRel.findGK g.apiGroup g.kind n = some child ∧
        (∃ u, applyUpdate Generated.knownMergeKeys Generated.objectMetaSystemFields child
                ((des.findGK g.apiGroup g.kind n).getD (.obj [])) = .ok u ∧ child.eqv u = true) ∧
        ¬(st.method = some "RollingInPlace" ∧ observedGen child > 0 ∧ observedGen child < getGeneration child) ∧
        childStatusCheck st.checks child = true := by
  unfold childHappy
  cases obsRel.findGK g.apiGroup g.kind n with
  | none => simp
  | some child =>
    simp only [Option.some.injEq, exists_eq_left']
    cases applyUpdate Generated.knownMergeKeys Generated.objectMetaSystemFields child
        ((des.findGK g.apiGroup g.kind n).getD (.obj [])) with
    | error e => simp
    | ok u =>
      simp only [Except.ok.injEq, exists_eq_left']
      show (if _ then _ else if (st.method == some "RollingInPlace" && decide (observedGen child > 0) &&
        decide (observedGen child < getGeneration child)) = true then _ else _) = none ↔ _
      rw [ite_some_eq_none, ite_some_eq_none, ite_some_eq_none]
      simp

-- non-vacuity: a happy child (both sides of `C07_child_happy` hold) ...
example : childHappy cfg0 ch0 (objs "" [("a", podObs "a")]) (objs "" [("a", pod "a")]) ⟨"", "Pod", ["a"]⟩ "a" = none :=
  happy_any "" []
example : ∃ child, (objs "" [("a", podObs "a")]).findGK "" "Pod" "a" = some child ∧
    (∃ u, applyUpdate Generated.knownMergeKeys Generated.objectMetaSystemFields child
            (((objs "" [("a", pod "a")]).findGK "" "Pod" "a").getD (.obj [])) = .ok u ∧ child.eqv u = true) ∧
    ¬(ch0.method = some "RollingInPlace" ∧ observedGen child > 0 ∧ observedGen child < getGeneration child) ∧
    childStatusCheck ch0.checks child = true :=
  (C07_child_happy cfg0 ch0 _ _ ⟨"", "Pod", ["a"]⟩ "a").mp (happy_any "" [])
-- ... and unhappy ones: RollingInPlace with a lagging observedGeneration; a missing child; a failed status check
example : childHappy cfg0 chInPlace (objs "" [("a", podStale "a")]) (objs "" [("a", pod "a")]) ⟨"", "Pod", ["a"]⟩ "a" =
    some "child Pod a with RollingInPlace update strategy hasn't observed latest spec" := by decide +kernel
example : chInPlace.method = some "RollingInPlace" ∧ observedGen (podStale "a") > 0 ∧
    observedGen (podStale "a") < getGeneration (podStale "a") := by decide +kernel
example : childHappy cfg0 ch0 (objs "" [("a", podStale "a")]) (objs "" [("a", pod "a")]) ⟨"", "Pod", ["a"]⟩ "a" = none := by
  decide +kernel
example : childHappy cfg0 ch0 [] (objs "" [("a", pod "a")]) ⟨"", "Pod", ["a"]⟩ "a" = some "missing child Pod a" := by
  decide +kernel
example : childHappy cfg0 { ch0 with checks := [⟨"Ready", some "True", none⟩] }
    (objs "" [("a", podObs "a")]) (objs "" [("a", pod "a")]) ⟨"", "Pod", ["a"]⟩ "a" =
    some "child Pod a failed status check" := by decide +kernel

/-- non-vacuity of `C07_gate`: revision 0 claims `a`, `a` is observed and up to date - the gate is open -/
theorem Ex.gate_open : shouldContinueRolling cfg0 (prs1.headD default) obsHappy = none := by
  rw [C07_gate]
  intro g hg st hst _ n hn
  simp only [prs1, rev, List.headD_cons, List.mem_singleton] at hg
  subst hg
  simp only [List.mem_singleton] at hn
  subst hn
  rw [cfg0_strategy] at hst
  injection hst with hst
  subst hst
  exact happy_any core _
-- ... and the gate is closed when the claimed child is missing
example : ¬ ∀ g ∈ (prs1.headD default).children, ∀ st, cfg0.strategy g.apiGroup g.kind = some st →
    isRollingMethod st.method = true → ∀ n ∈ g.names, childHappy cfg0 st [] (prs1.headD default).desired g n = none := by
  rw [← C07_gate, gate_closed]
  simp

/-- the first pending child exists but the latest revision's children are not all healthy: nothing moves -/
theorem C07_wait (c : Cfg) (obsRel : ObjMap) (prs : List PRev) (cl : Claims) (children : List J) (child : J) (msg : String)
    (hp : firstPending c cl children = some child)
    (hg : shouldContinueRolling c (prs.headD default) obsRel = some msg) :
    gatedMove c obsRel prs cl children = (prs, condJ "False" "RolloutWaiting" msg) := by
  rw [gatedMove_cases, hp]
  simp only [hg]

/-- every rolling child is already on the latest revision: nothing moves, the rollout is complete -/
theorem C07_complete (c : Cfg) (obsRel : ObjMap) (prs : List PRev) (cl : Claims) (children : List J)
    (hp : firstPending c cl children = none) :
    gatedMove c obsRel prs cl children =
      (prs, condJ "True" "OnLatestRevision" s!"latest ControllerRevision: {(prs.headD default).name}") := by
  rw [gatedMove_cases, hp]

/-- ∀-form of `C07_complete` -/
theorem C07_complete_forall (c : Cfg) (obsRel : ObjMap) (prs : List PRev) (cl : Claims) (children : List J)
    (hp : ∀ child ∈ children, c.isRolling (apiGroup (getAPIVersion child)) (getKind child) = true →
      cl.get (apiGroup (getAPIVersion child)) (getKind child) (getName child) = some 0) :
    gatedMove c obsRel prs cl children =
      (prs, condJ "True" "OnLatestRevision" s!"latest ControllerRevision: {(prs.headD default).name}") :=
  C07_complete c obsRel prs cl children ((firstPending_none_iff c cl children).mpr hp)

/-- the gate is open: exactly the first pending child moves -/
theorem C07_progress (c : Cfg) (obsRel : ObjMap) (prs : List PRev) (cl : Claims) (children : List J) (child : J)
    (hp : firstPending c cl children = some child)
    (hg : shouldContinueRolling c (prs.headD default) obsRel = none) :
    gatedMove c obsRel prs cl children =
      (prs.mapIdx (fun i p =>
          if i == 0 then { p with children := addChild p.children (apiGroup (getAPIVersion child)) (getKind child) (getName child) }
          else { p with children := removeChild p.children (apiGroup (getAPIVersion child)) (getKind child) (getName child) }),
       condJ "False" "RolloutProgressing" s!"updating {getKind child} {getName child}") := by
  rw [gatedMove_cases, hp]
  simp only [hg]

-- non-vacuity: `a` on revision 0, `b` and `c` on revision 1, hook order `a, b, c`
example : gatedMove cfg0 [] prs1 cl1 kids = (prs1, condJ "False" "RolloutWaiting" "missing child Pod a") :=
  C07_wait cfg0 [] prs1 cl1 kids (pod "b") _ first1 gate_closed

example : gatedMove cfg0 obsHappy prs1 clDone kids =
    (prs1, condJ "True" "OnLatestRevision" s!"latest ControllerRevision: {(prs1.headD default).name}") :=
  C07_complete cfg0 obsHappy prs1 clDone kids firstDone

example : ∀ child ∈ kids, cfg0.isRolling (apiGroup (getAPIVersion child)) (getKind child) = true →
    clDone.get (apiGroup (getAPIVersion child)) (getKind child) (getName child) = some 0 :=
  (firstPending_none_iff cfg0 clDone kids).mp firstDone

/-- `b` (not `c`) moves -/
theorem Ex.progress1 : gatedMove cfg0 obsHappy prs1 cl1 kids =
    (moveChild prs1 core "Pod" "b", condJ "False" "RolloutProgressing" "updating Pod b") :=
  C07_progress cfg0 obsHappy prs1 cl1 kids (pod "b") first1 Ex.gate_open

/-- the claims after the move: `b` joined `a` on revision 0 and left revision 1 -/
theorem Ex.moved1 : (moveChild prs1 core "Pod" "b").map (·.children) =
    [[⟨core, "Pod", ["a", "b"]⟩], [⟨core, "Pod", ["c"]⟩]] := by
  simp [moveChild, prs1, rev, List.mapIdx_cons, addChild, addChild.go, removeChild, removeChild.go]

theorem Ex.moved1_ne : moveChild prs1 core "Pod" "b" ≠ prs1 := by
  intro h
  have := congrArg (List.map (·.children)) h
  rw [Ex.moved1] at this
  simp [prs1, rev] at this

/-- the three outcomes of `gatedMove`; a move is always the move of the first pending child -/
theorem C07_hook_order (c : Cfg) (obsRel : ObjMap) (prs prs' : List PRev) (cl : Claims) (children : List J) (cond : J)
    (h : gatedMove c obsRel prs cl children = (prs', cond)) :
    (firstPending c cl children = none ∧ prs' = prs ∧
      cond = condJ "True" "OnLatestRevision" s!"latest ControllerRevision: {(prs.headD default).name}") ∨
    (∃ child msg, firstPending c cl children = some child ∧
      shouldContinueRolling c (prs.headD default) obsRel = some msg ∧ prs' = prs ∧
      cond = condJ "False" "RolloutWaiting" msg) ∨
    (∃ child, firstPending c cl children = some child ∧
      shouldContinueRolling c (prs.headD default) obsRel = none ∧
      prs' = moveChild prs (apiGroup (getAPIVersion child)) (getKind child) (getName child) ∧
      cond = condJ "False" "RolloutProgressing" s!"updating {getKind child} {getName child}") := by
  rw [gatedMove_cases] at h
  split at h
  · obtain ⟨rfl, rfl⟩ := Prod.mk.inj h
    exact .inl ⟨‹_›, rfl, rfl⟩
  · split at h
    · obtain ⟨rfl, rfl⟩ := Prod.mk.inj h
      exact .inr (.inl ⟨_, _, ‹_›, ‹_›, rfl, rfl⟩)
    · obtain ⟨rfl, rfl⟩ := Prod.mk.inj h
      exact .inr (.inr ⟨_, ‹_›, ‹_›, rfl, rfl⟩)

/-- whenever the revisions change, the change is the move of the first child (hook order) of a rolling kind
    that revision 0 does not claim yet -/
theorem C07_hook_order_first (c : Cfg) (obsRel : ObjMap) (prs prs' : List PRev) (cl : Claims) (children : List J) (cond : J)
    (h : gatedMove c obsRel prs cl children = (prs', cond)) (hne : prs' ≠ prs) :
    ∃ before child after, children = before ++ child :: after ∧
      (∀ x ∈ before, ¬(c.isRolling (apiGroup (getAPIVersion x)) (getKind x) = true ∧
                        cl.get (apiGroup (getAPIVersion x)) (getKind x) (getName x) ≠ some 0)) ∧
      c.isRolling (apiGroup (getAPIVersion child)) (getKind child) = true ∧
      cl.get (apiGroup (getAPIVersion child)) (getKind child) (getName child) ≠ some 0 ∧
      prs' = moveChild prs (apiGroup (getAPIVersion child)) (getKind child) (getName child) := by
  rcases C07_hook_order c obsRel prs prs' cl children cond h with ⟨_, h1, _⟩ | ⟨_, _, _, _, h1, _⟩ | ⟨child, hp, _, h1, _⟩
  · exact absurd h1 hne
  · exact absurd h1 hne
  · rw [firstPending_some_iff] at hp
    obtain ⟨hpc, before, after, hsplit, hbefore⟩ := hp
    rw [pending_iff] at hpc
    refine ⟨before, child, after, hsplit, fun x hx hpx => ?_, hpc.1, hpc.2, h1⟩
    rw [← pending_iff, hbefore x hx] at hpx
    exact Bool.false_ne_true hpx

/-- at most one child moves per sync -/
theorem C07_one_move (c : Cfg) (obsRel : ObjMap) (prs prs' : List PRev) (cl : Claims) (children : List J) (cond : J)
    (h : gatedMove c obsRel prs cl children = (prs', cond)) :
    prs' = prs ∨ ∃ g k n, prs' = prs.mapIdx (fun i p =>
      if i == 0 then { p with children := addChild p.children g k n }
      else { p with children := removeChild p.children g k n }) := by
  rcases C07_hook_order c obsRel prs prs' cl children cond h with ⟨_, h1, _⟩ | ⟨_, _, _, _, h1, _⟩ | ⟨child, _, _, h1, _⟩
  · exact Or.inl h1
  · exact Or.inl h1
  · exact Or.inr ⟨_, _, _, h1⟩

/-- corollary: the claims of the latest revision are unchanged or received one `addChild` -/
theorem C07_one_move_latest (c : Cfg) (obsRel : ObjMap) (prs prs' : List PRev) (cl : Claims) (children : List J) (cond : J)
    (h : gatedMove c obsRel prs cl children = (prs', cond)) :
    (prs'.headD default).children = (prs.headD default).children ∨
    ∃ g k n, (prs'.headD default).children = addChild (prs.headD default).children g k n := by
  rcases C07_one_move c obsRel prs prs' cl children cond h with h1 | ⟨g, k, n, h1⟩
  · left; rw [h1]
  · cases prs with
    | nil => left; rw [h1]; rfl
    | cons p rest =>
      right
      refine ⟨g, k, n, ?_⟩
      rw [h1, headD_mapIdx _ (List.cons_ne_nil _ _)]
      rfl

/-- corollary on names: the names claimed by the latest revision are unchanged or gained exactly one name -/
theorem C07_one_name (c : Cfg) (obsRel : ObjMap) (prs prs' : List PRev) (cl : Claims) (children : List J) (cond : J)
    (h : gatedMove c obsRel prs cl children = (prs', cond)) :
    claimNames (prs'.headD default).children = claimNames (prs.headD default).children ∨
    ∃ n as bs, claimNames (prs.headD default).children = as ++ bs ∧
      claimNames (prs'.headD default).children = as ++ n :: bs := by
  rcases C07_one_move_latest c obsRel prs prs' cl children cond h with h1 | ⟨g, k, n, h1⟩
  · left; rw [h1]
  · rw [h1]
    rcases addChild_names (prs.headD default).children g k n with h2 | ⟨as, bs, h2, h3⟩
    · exact Or.inl h2
    · exact Or.inr ⟨n, as, bs, h2, h3⟩

-- non-vacuity: all three outcomes occur (see the examples above); here the hypotheses of the "move" forms
example : ∃ before child after, kids = before ++ child :: after ∧
    (∀ x ∈ before, ¬(cfg0.isRolling (apiGroup (getAPIVersion x)) (getKind x) = true ∧
                      cl1.get (apiGroup (getAPIVersion x)) (getKind x) (getName x) ≠ some 0)) ∧
    cfg0.isRolling (apiGroup (getAPIVersion child)) (getKind child) = true ∧
    cl1.get (apiGroup (getAPIVersion child)) (getKind child) (getName child) ≠ some 0 ∧
    moveChild prs1 core "Pod" "b" = moveChild prs1 (apiGroup (getAPIVersion child)) (getKind child) (getName child) :=
  C07_hook_order_first cfg0 obsHappy prs1 _ cl1 kids _ Ex.progress1 Ex.moved1_ne

example : moveChild prs1 core "Pod" "b" = prs1 ∨ ∃ g k n, moveChild prs1 core "Pod" "b" = prs1.mapIdx (fun i p =>
    if i == 0 then { p with children := addChild p.children g k n }
    else { p with children := removeChild p.children g k n }) :=
  C07_one_move cfg0 obsHappy prs1 _ cl1 kids _ Ex.progress1

example : ((moveChild prs1 core "Pod" "b").headD default).children = (prs1.headD default).children ∨
    ∃ g k n, ((moveChild prs1 core "Pod" "b").headD default).children = addChild (prs1.headD default).children g k n :=
  C07_one_move_latest cfg0 obsHappy prs1 _ cl1 kids _ Ex.progress1

example : claimNames (prs1.headD default).children = ["a"] ∧
    claimNames ((moveChild prs1 core "Pod" "b").headD default).children = ["a", "b"] := by
  simp [claimNames, moveChild, prs1, rev, List.mapIdx_cons, addChild, addChild.go]

-- with no revisions at all nothing can move
example (c : Cfg) (obsRel : ObjMap) (cl : Claims) (children : List J) : (gatedMove c obsRel [] cl children).1 = [] := by
  rcases C07_one_move c obsRel [] _ cl children _ rfl with h | ⟨_, _, _, h⟩ <;> rw [h] <;> rfl

def isCondOfType (t : String) (x : J) : Bool := x.isObj && x.get? "type" == some (.str t)

theorem isCondOfType_iff (t : String) (x : J) :
    isCondOfType t x = true ↔ x.isObj = true ∧ x.get? "type" = some (.str t) := by
  unfold isCondOfType
  rw [Bool.and_eq_true]
  apply and_congr Iff.rfl
  cases h : x.get? "type" with
  | none => simp
  | some v =>
    show (v == J.str t) = true ↔ _
    rw [beq_str_iff]; simp

theorem go_nil (cond : J) (ty : Option J) : setCondition.go cond ty [] = [] := rfl

theorem upsertCond_typed {cond : J} {t : String} (ht : cond.get? "type" = some (.str t)) (xs : List J) :
    ((upsertCond cond xs).filter (isCondOfType t)).length = max 1 (xs.filter (isCondOfType t)).length ∧
    (upsertCond cond xs).filter (fun x => !isCondOfType t x) = xs.filter (fun x => !isCondOfType t x) := by
  have hc := (isCondOfType_iff t cond).mpr ⟨isObj_of_get? ht, ht⟩
  have hany : (fun x : J => x.isObj && x.get? "type" == cond.get? "type" && ((cond.get? "type").bind J.str?).isSome) =
      isCondOfType t := by
    funext x
    simp [ht, isCondOfType, J.str?]
  rw [upsertCond, hany, ht]
  split
  · rename_i ha
    obtain ⟨x, hx, hp⟩ := List.any_eq_true.mp ha
    obtain ⟨as, y, bs, rfl, hy, hgo⟩ := setCondition_go_split cond _ hx hp
    have hy : isCondOfType t y = true := hy
    rw [hgo]
    simp [List.filter_append, hc, hy]
    omega
  · rename_i ha
    have hf : xs.filter (isCondOfType t) = [] :=
      List.filter_eq_nil_iff.mpr fun a m hp => ha (List.any_eq_true.mpr ⟨a, m, hp⟩)
    simp [List.filter_append, hf, hc]

/-- C07 (condition): a successful `setCondition` leaves a `conditions` list containing the new condition,
    touches no other key of the status, and keeps the condition type unique: if the new condition is an
    object with string type `t` and the old list held at most one condition of type `t`, the new list
    holds exactly one (the first match is replaced, else the condition is appended) -/
theorem C07_condition (status : KVs) (cond : J) (st' : KVs) (h : setCondition status cond = .ok st') :
    (∃ xs', lookup "conditions" st' = some (.arr xs') ∧ cond ∈ xs') ∧
    (∀ k, k ≠ "conditions" → lookup k st' = lookup k status) ∧
    (∀ t, cond.get? "type" = some (.str t) →
      (∀ xs, lookup "conditions" status = some (.arr xs) → (xs.filter (isCondOfType t)).length ≤ 1) →
      ∃ xs', lookup "conditions" st' = some (.arr xs') ∧ (xs'.filter (isCondOfType t)).length = 1) := by
  obtain ⟨xs, h0, rfl⟩ := setCondition_ok h
  refine ⟨⟨_, lookup_setKey_same _ _ _, mem_upsertCond cond xs⟩, fun k hk => lookup_setKey_other _ _ _ _ hk, ?_⟩
  intro t ht hold
  refine ⟨_, lookup_setKey_same _ _ _, ?_⟩
  have : (xs.filter (isCondOfType t)).length ≤ 1 := by
    rcases h0 with ⟨_, rfl⟩ | h0
    · exact Nat.zero_le 1
    · exact hold xs h0
  rw [(upsertCond_typed ht xs).1]
  omega

/-- C07 (condition, exact form): with a typed condition the write-back changes nothing but the
    condition of that type - the other conditions are kept, in order, and the number of conditions of
    type `t` becomes `max 1 (old number)` -/
theorem C07_condition_exact (status : KVs) (cond : J) (st' : KVs) (t : String) (xs : List J)
    (h : setCondition status cond = .ok st') (ht : cond.get? "type" = some (.str t))
    (h0 : lookup "conditions" status = some (.arr xs)) :
    ∃ xs', lookup "conditions" st' = some (.arr xs') ∧
      (xs'.filter (isCondOfType t)).length = max 1 (xs.filter (isCondOfType t)).length ∧
      xs'.filter (fun x => !isCondOfType t x) = xs.filter (fun x => !isCondOfType t x) := by
  obtain ⟨ys, h1, rfl⟩ := setCondition_ok h
  rw [h0] at h1
  obtain rfl : xs = ys := by simpa using h1
  exact ⟨_, lookup_setKey_same _ _ _, upsertCond_typed ht xs⟩

/-- C07 (condition, failure): `setCondition` fails exactly when `conditions` exists and is not a list (an explicit
    `null` included, as `unstructured.NestedSlice` does), and then with a fixed message -/
theorem C07_condition_error (status : KVs) (cond : J) (e : String) :
    setCondition status cond = .error e ↔
      e = "status.conditions is not a list" ∧
      ∃ v, lookup "conditions" status = some v ∧ v.isArr = false := by
  rw [setCondition_eq]
  cases lookup "conditions" status with
  | none => simp
  | some v =>
    cases v with
    | arr xs => simp [J.isArr]
    | _ => exact ⟨fun h => ⟨(Except.error.inj h).symm, _, rfl, rfl⟩, fun h => h.1 ▸ rfl⟩

/-- the rollout conditions of `syncRollingUpdate` are objects of type "Updated" -/
theorem condJ_type (s r m : String) : (condJ s r m).get? "type" = some (.str "Updated") := by
  simp [condJ, J.get?, J.fields]

-- non-vacuity: first rollout (no conditions yet), replacement of the previous rollout condition next to a
-- foreign condition, and the failure case
example : setCondition [("replicas", .num 3)] (condJ "False" "RolloutProgressing" "m") =
    .ok [("replicas", .num 3), ("conditions", .arr [condJ "False" "RolloutProgressing" "m"])] := by rfl
example : setCondition [("conditions", .arr [.obj [("type", .str "Ready")], condJ "False" "RolloutWaiting" "w"])]
      (condJ "True" "OnLatestRevision" "m") =
    .ok [("conditions", .arr [.obj [("type", .str "Ready")], condJ "True" "OnLatestRevision" "m"])] := by rfl
example : ((([J.obj [("type", .str "Ready")], condJ "False" "RolloutWaiting" "w"] : List J).filter
    (isCondOfType "Updated")).length ≤ 1) := by decide +kernel
example : setCondition [("conditions", .str "oops")] (condJ "True" "OnLatestRevision" "m") =
    .error "status.conditions is not a list" := by rfl
example : setCondition [("conditions", .null)] (condJ "True" "OnLatestRevision" "m") =
    .error "status.conditions is not a list" := by rfl

/-- C07 (claims): after `syncRevisionClaims` (fresh claim map, latest revision first)
    (a) every name still held by a revision is desired by the latest revision and of a rolling kind;
    (b) the revisions are the same, in the same order, and differ only in `children`: groups and names
        are only ever dropped (order kept; same apiGroup/kind; kept groups are non-empty);
    (c) no `(claimKey, name)` pair is held twice, a pair held by revision `i` is mapped to `i` by the
        claim map, and the claim map contains nothing else -/
theorem C07_claims_filtered (c : Cfg) (latestDesired : ObjMap) (prs prs' : List PRev) (cl' : Claims)
    (h : syncRevisionClaims c latestDesired prs 0 [] = (prs', cl')) :
    -- (a)
    (∀ p' ∈ prs', ∀ g ∈ p'.children, ∀ n ∈ g.names,
        (latestDesired.findGK g.apiGroup g.kind n).isSome = true ∧ c.isRolling g.apiGroup g.kind = true) ∧
    -- (b)
    prs'.length = prs.length ∧
    (∀ (i : Nat) (p p' : PRev), prs[i]? = some p → prs'[i]? = some p' →
        p'.parent = p.parent ∧ p'.revision = p.revision ∧ p'.resp = p.resp ∧ p'.desired = p.desired ∧
        SubGroups p'.children p.children ∧
        ∀ g' ∈ p'.children, ∃ g ∈ p.children, g'.apiGroup = g.apiGroup ∧ g'.kind = g.kind ∧
          g'.names.Sublist g.names ∧ g'.names ≠ []) ∧
    -- (c)
    (keptKeys prs').Nodup ∧
    (∀ (i : Nat) (p' : PRev), prs'[i]? = some p' → ∀ g ∈ p'.children, ∀ n ∈ g.names,
        cl'.get g.apiGroup g.kind n = some i) ∧
    (∀ (i : Nat) (apiGroup kind n : String), cl'.get apiGroup kind n = some i →
        ∃ p', prs'[i]? = some p' ∧ ∃ g ∈ p'.children, n ∈ g.names ∧
          claimKey g.apiGroup g.kind = claimKey apiGroup kind) := by
  obtain ⟨step, hlen, outs, _⟩ := syncRevisionClaims_spec c latestDesired prs 0 [] h
  refine ⟨?_, hlen, ?_, step.nodup, ?_, ?_⟩
  · intro p' hp' g hg n hn
    obtain ⟨j, hj⟩ := List.getElem?_of_mem hp'
    obtain ⟨p, _, r⟩ := outs j p' hj
    exact ⟨(r.ok g hg).2 n hn, (r.ok g hg).1⟩
  · intro i p p' hp hp'
    obtain ⟨q, hq, r⟩ := outs i p' hp'
    obtain rfl : q = p := Option.some.inj (hq.symm.trans hp)
    exact ⟨r.parent, r.revision, r.resp, r.desired, r.sub, r.sub.mem⟩
  · intro i p' hp' g hg n hn
    obtain ⟨p, _, r⟩ := outs i p' hp'
    exact Nat.zero_add i ▸ r.get hg hn
  · intro i a k n hget
    rw [Claims.get_eq_getK] at hget
    obtain ⟨_, p', _, hp', _, g, hg, n', hn', he⟩ := syncRevisionClaims_holder h hget
    obtain ⟨e1, rfl⟩ := Prod.mk.inj he
    exact ⟨p', hp', g, hg, hn', e1.symm⟩

/-- C07 (claims, general invariant): for an arbitrary starting claim map `cl` and starting index `i`:
    the kept pairs were unclaimed in `cl`, are pairwise distinct, and a pair kept by the `j`-th revision
    is mapped to `i + j`; claims already in `cl` keep their value, and nothing else is added -/
theorem C07_claims_general (c : Cfg) (latestDesired : ObjMap) (prs prs' : List PRev) (i : Nat) (cl cl' : Claims)
    (h : syncRevisionClaims c latestDesired prs i cl = (prs', cl')) :
    (∀ κ ∈ keptKeys prs', cl.getK κ = none) ∧
    (keptKeys prs').Nodup ∧
    (∀ κ v, cl.getK κ = some v → cl'.getK κ = some v) ∧
    (∀ κ, κ ∉ keptKeys prs' → cl'.getK κ = cl.getK κ) ∧
    (∀ (j : Nat) (p' : PRev), prs'[j]? = some p' → ∀ g ∈ p'.children, ∀ n ∈ g.names,
        cl'.get g.apiGroup g.kind n = some (i + j)) := by
  obtain ⟨step, _, outs, _⟩ := syncRevisionClaims_spec c latestDesired prs i cl h
  refine ⟨step.fresh, step.nodup, fun κ v hv => step.mono hv, step.frame, ?_⟩
  intro j p' hp' g hg n hn
  obtain ⟨p, _, r⟩ := outs j p' hp'
  exact r.get hg hn

/-- C07 (claims, completeness): a name that is eligible in revision `i` (listed in one of its groups of
    a rolling kind, desired by the latest revision) is claimed by a revision at or before `i` -/
theorem C07_claims_complete (c : Cfg) (latestDesired : ObjMap) (prs prs' : List PRev) (cl' : Claims)
    (h : syncRevisionClaims c latestDesired prs 0 [] = (prs', cl'))
    (i : Nat) (p : PRev) (g : CGroup) (n : String)
    (hp : prs[i]? = some p) (hg : g ∈ p.children) (hn : n ∈ g.names)
    (hr : c.isRolling g.apiGroup g.kind = true)
    (hd : (latestDesired.findGK g.apiGroup g.kind n).isSome = true) :
    ∃ v, v ≤ i ∧ cl'.get g.apiGroup g.kind n = some v := by
  obtain ⟨v, hv, _, hle⟩ := (syncRevisionClaims_spec c latestDesired prs 0 [] h).2.2.2 i p hp g hg hr n hn hd rfl
  exact ⟨v, Nat.zero_add i ▸ hle, hv⟩

/-- C07 (claims, the earlier revision wins): a name eligible in revision `i` whose key is not eligible in
    any earlier revision `j < i` is claimed by revision `i`, and revision `i` keeps it -/
theorem C07_claims_wins (c : Cfg) (latestDesired : ObjMap) (prs prs' : List PRev) (cl' : Claims)
    (h : syncRevisionClaims c latestDesired prs 0 [] = (prs', cl'))
    (i : Nat) (p : PRev) (g : CGroup) (n : String)
    (hp : prs[i]? = some p) (hg : g ∈ p.children) (hn : n ∈ g.names)
    (hr : c.isRolling g.apiGroup g.kind = true)
    (hd : (latestDesired.findGK g.apiGroup g.kind n).isSome = true)
    (hearlier : ∀ (j : Nat) (p2 : PRev), j < i → prs[j]? = some p2 → ∀ g2 ∈ p2.children,
        c.isRolling g2.apiGroup g2.kind = true → ∀ n2 ∈ g2.names,
        (latestDesired.findGK g2.apiGroup g2.kind n2).isSome = true →
        (claimKey g2.apiGroup g2.kind, n2) ≠ (claimKey g.apiGroup g.kind, n)) :
    cl'.get g.apiGroup g.kind n = some i ∧
    ∃ p', prs'[i]? = some p' ∧ ∃ g' ∈ p'.children, n ∈ g'.names ∧
      claimKey g'.apiGroup g'.kind = claimKey g.apiGroup g.kind := by
  obtain ⟨v, hvi, hv⟩ := C07_claims_complete c latestDesired prs prs' cl' h i p g n hp hg hn hr hd
  obtain ⟨p0, p', hp0, hp', r, g', hg', n', hn', he⟩ := syncRevisionClaims_holder (κ := g.key n) h hv
  obtain ⟨hk, rfl⟩ := Prod.mk.inj he
  have hvi' : v = i := by
    apply Classical.byContradiction
    intro hne
    obtain ⟨g0, hg0, e1, e2, hs, _⟩ := r.sub.mem g' hg'
    have hr' := (r.ok g' hg').1
    have hd' := (r.ok g' hg').2 n hn'
    rw [e1, e2] at hr' hd' hk
    exact hearlier v p0 (by omega) hp0 g0 hg0 hr' n (hs.subset hn') hd' (by rw [hk])
  subst hvi'
  exact ⟨hv, p', hp', g', hg', hn', hk.symm⟩

/-! Two revisions, the latest first.
  `Cfg.isRolling` goes through `String.splitOn` (via `apiGroup`), which does not reduce; the examples
  therefore name the API group `apiGroup "apps/v1"` without evaluating it. -/

namespace Ex18

def apps : String := apiGroup "apps/v1"
def core : String := apiGroup "v1"
/-- Deployments roll in place; ConfigMaps have no update strategy -/
def cfg0 : Cfg :=
  { (default : Cfg) with
    children := [{ apiVersion := "apps/v1", resource := "deployments", kind := "Deployment", namespaced := true,
                   hasStatus := true, method := some "RollingInPlace" },
                 { apiVersion := "v1", resource := "configmaps", kind := "ConfigMap", namespaced := true,
                   hasStatus := false, method := none }] }
def d0 : ObjMap := [({ group := apps, version := "v1", kind := "Deployment" }, [("a", .null), ("b", .null)])]
def dep (names : List String) : CGroup := { apiGroup := apps, kind := "Deployment", names := names }
def cm (names : List String) : CGroup := { apiGroup := core, kind := "ConfigMap", names := names }
/-- latest revision: Deployments `a`, `gone` (no longer desired) and a ConfigMap (not a rolling kind);
    older revision: Deployments `a` (already held by the latest) and `b` -/
def prs0 : List PRev := [{ (default : PRev) with children := [dep ["a", "gone"], cm ["x"]] },
                         { (default : PRev) with children := [dep ["a", "b"]] }]

theorem rolling_dep : cfg0.isRolling apps "Deployment" = true := by
  simp [Cfg.isRolling, Cfg.strategy, cfg0, ChildRes.group, apps, isRollingMethod]

theorem rolling_cm : cfg0.isRolling core "ConfigMap" = false := by
  simp [Cfg.isRolling, Cfg.strategy, cfg0, ChildRes.group, core]

-- the latest revision keeps `a`, the older one only `b`; `gone` and the ConfigMap group are dropped
example :
    (syncRevisionClaims cfg0 d0 prs0 0 []).1.map (·.children) = [[dep ["a"]], [dep ["b"]]] ∧
    (syncRevisionClaims cfg0 d0 prs0 0 []).2 =
      [((claimKey apps "Deployment", "a"), 0), ((claimKey apps "Deployment", "b"), 1)] := by
  simp [syncRevisionClaims, filterGroups, filterNames, prs0, dep, cm, rolling_dep, rolling_cm, d0, ObjMap.findGK,
    Claims.get, Claims.set, List.lookup]

-- with no rolling kind configured every claim is dropped
example : (syncRevisionClaims { (default : Cfg) with children := [] } d0 prs0 0 []).1.map (·.children) = [[], []] := by
  rfl

-- the hypotheses of `C07_claims_complete` / `C07_claims_wins` hold for `b` in the older revision (the latest one
-- does not name `b`)
example : (syncRevisionClaims cfg0 d0 prs0 0 []).2.get apps "Deployment" "b" = some 1 := by
  refine (C07_claims_wins cfg0 d0 prs0 _ _ rfl 1 { (default : PRev) with children := [dep ["a", "b"]] }
    (dep ["a", "b"]) "b" rfl (by simp) (by simp [dep]) rolling_dep (by simp [d0, dep, ObjMap.findGK, List.lookup]) ?_).1
  intro j p2 hj hp2 g2 hg2 _ n2 hn2 _ h
  obtain rfl : j = 0 := by omega
  obtain rfl : _ = p2 := Option.some.inj hp2
  obtain rfl : n2 = "b" := (Prod.mk.inj h).2
  simp only [List.mem_cons, List.not_mem_nil, or_false] at hg2
  rcases hg2 with rfl | rfl
  · simp [dep] at hn2
  · simp [cm] at hn2

end Ex18

end Mc.C07
