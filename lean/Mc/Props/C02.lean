import Mc.Proofs.ManageLemmas
import Mc.Proofs.AtomicLemmas
import Mc.Props.C06
import Mc.Proofs.ObjLemmas
import Mc.Proofs.ObjMapLemmas
/-
  C02 - only objects the parent controls are written; deletes are conditioned on the observed UID;
  creates carry the controller reference.
  First which requests are issued - by `ManageChildren` under either apply mode, by `manageRevisions`, by a claim
  round, each as a class of requests given with the facts that lead to each member - then what the bodies carry: the owner references of a created or
  applied child, the identity and the status of an updated one.
-/
namespace Mc.C02
open Prog

def Occurs (m : ObjMap) (o : J) : Prop := ∃ g ∈ m, ∃ no ∈ g.2, no.2 = o

theorem occurs_of_group_lookup (m : ObjMap) (k : GVK) (name : String) (o : J) (h : (m.group k).lookup name = some o) :
    Occurs m o :=
  (mem_list_iff m o).1 (mem_list_of_at h)

abbrev tgt (info : KindInfo) (o : J) : Target :=
  targetOf info.group info.resource info.namespaced (getNamespace o) (getName o)

/-- every request `ManageChildren` can issue under dynamic apply, with the facts that led to it -/
inductive ManagedReq (mks sys : List String) (children : List ChildRes) (kt : KindTable) (parentRef : OwnerRef)
    (observed desired : ObjMap) : Req → Prop where
  /-- an observed child that is not desired any more is deleted, by its own namespace/name, guarded by its UID -/
  | orphan (g : GVK × List (String × J)) (info : KindInfo) (name : String) (obj : J) :
      g ∈ observed → kt.find (gvkAPIVersion g.1) g.1.kind = some info → (name, obj) ∈ g.2 →
      isDeleting obj = false → ((desired.group g.1).map (·.1)).contains name = false →
      ManagedReq mks sys children kt parentRef observed desired
        (.api .delete (targetOf info.group info.resource info.namespaced (getNamespace obj) (getName obj)) .null (deleteOpts (getUID obj)))
  /-- method Recreate: the delete is addressed by the desired object's namespace/name and guarded by the observed UID -/
  | recreate (g : GVK × List (String × J)) (info : KindInfo) (name : String) (des obs : J) (uid : String) :
      g ∈ desired → kt.find (gvkAPIVersion g.1) g.1.kind = some info → (name, des) ∈ g.2 →
      (observed.group g.1).lookup name = some obs →
      updateAct mks sys (getMethod children info.group g.1.kind) obs des = .delete uid →
      ManagedReq mks sys children kt parentRef observed desired
        (.api .delete (targetOf info.group info.resource info.namespaced (getNamespace des) (getName des)) .null (deleteOpts uid))
  | update (g : GVK × List (String × J)) (info : KindInfo) (name : String) (des obs body : J) :
      g ∈ desired → kt.find (gvkAPIVersion g.1) g.1.kind = some info → (name, des) ∈ g.2 →
      (observed.group g.1).lookup name = some obs →
      updateAct mks sys (getMethod children info.group g.1.kind) obs des = .update body →
      ManagedReq mks sys children kt parentRef observed desired
        (.api .update (targetOf info.group info.resource info.namespaced (getNamespace des) (getName des)) body .null)
  | create (g : GVK × List (String × J)) (info : KindInfo) (name : String) (des : J) :
      g ∈ desired → kt.find (gvkAPIVersion g.1) g.1.kind = some info → (name, des) ∈ g.2 →
      (observed.group g.1).lookup name = none →
      ManagedReq mks sys children kt parentRef observed desired
        (.api .create (targetOf info.group info.resource info.namespaced (getNamespace des) (getName des)) (createBody parentRef des) .null)

/-- **C02_manage_requests** (strong form): on every branch, every request of `manageChildren` under dynamic apply
    is one of the four kinds of `ManagedReq`; no hook call, no get, no apply, no patch -/
theorem C02_manage_requests_strong (mks sys : List String) (children : List ChildRes) (kt : KindTable) (parentRef : OwnerRef)
    (observed desired : ObjMap) (memo : Memo) :
    AllCalls (ManagedReq mks sys children kt parentRef observed desired)
      (manageChildren mks sys children none kt parentRef observed desired memo) := by
  rw [manageChildren_eq]
  refine AllCalls.bind (AllCalls.groupLoop _ _ _ _ fun g hg info hk m =>
    deleteGroup_calls _ _ _ _ _ fun name obj hno => .orphan g info name obj hg hk hno) fun a => ?_
  refine AllCalls.bind (AllCalls.groupLoop _ _ _ _ fun g hg info hk m => ?_) fun _ => .ret _
  refine (C12.updateGroup_issues ..).allCalls fun r hr => ?_
  obtain ⟨⟨name, des⟩, hnd, h⟩ := C12.mem_updateGroupReqs.mp hr
  unfold C12.childReqs at h
  cases hobs : (observed.group g.1).lookup name with
  | none =>
    simp only [hobs, List.mem_singleton] at h
    subst h
    exact .create g info name des hg hk hnd hobs
  | some obs =>
    simp only [hobs] at h
    cases hact : updateAct mks sys (getMethod children info.group g.1.kind) obs des with
    | none => simp [hact] at h
    | error e => simp [hact] at h
    | delete uid =>
      simp only [hact, List.mem_singleton] at h
      subst h
      exact .recreate g info name des obs uid hg hk hnd hobs hact
    | update body =>
      simp only [hact, List.mem_singleton] at h
      subst h
      exact .update g info name des obs body hg hk hnd hobs hact

def Known (kt : KindTable) (info : KindInfo) : Prop := ∃ av k, kt.find av k = some info

/-- C02 in the property's words: what is written is determined by an observed object and/or a desired object -/
def ManagedReqW (mks sys : List String) (kt : KindTable) (parentRef : OwnerRef) (observed desired : ObjMap) (r : Req) : Prop :=
  ∃ info, Known kt info ∧
    ((∃ o, Occurs observed o ∧ r = .api .delete (tgt info o) .null (deleteOpts (getUID o))) ∨
     (∃ o d, Occurs observed o ∧ Occurs desired d ∧ r = .api .delete (tgt info d) .null (deleteOpts (getUID o))) ∨
     (∃ o d b, Occurs observed o ∧ Occurs desired d ∧ applyUpdate mks sys o d = .ok b ∧ r = .api .update (tgt info d) b .null) ∨
     (∃ d, Occurs desired d ∧ r = .api .create (tgt info d) (createBody parentRef d) .null))

/-- **C02_manage_requests**: every request of `manageChildren` (dynamic apply), on every branch, is
    a delete of an observed object by its own name and UID, a Recreate-delete addressed by a desired object's name and
    guarded by an observed object's UID, an update whose body is `applyUpdate` of an observed and a desired object,
    or a create of `createBody parentRef d` for a desired `d`. Nothing else: no hook, get, apply or patch. -/
theorem C02_manage_requests (mks sys : List String) (children : List ChildRes) (kt : KindTable) (parentRef : OwnerRef)
    (observed desired : ObjMap) (memo : Memo) :
    AllCalls (ManagedReqW mks sys kt parentRef observed desired)
      (manageChildren mks sys children none kt parentRef observed desired memo) := by
  refine AllCalls.mono (fun r h => ?_) (C02_manage_requests_strong ..)
  cases h with
  | orphan g info name obj h1 h2 h3 h4 h5 =>
    exact ⟨info, ⟨_, _, h2⟩, Or.inl ⟨obj, ⟨g, h1, (name, obj), h3, rfl⟩, rfl⟩⟩
  | recreate g info name des obs uid h1 h2 h3 h4 h5 =>
    obtain ⟨rfl, _, _⟩ := Mc.C06.C06_delete_inv _ _ _ _ _ _ h5
    exact ⟨info, ⟨_, _, h2⟩, Or.inr (Or.inl ⟨obs, des, occurs_of_group_lookup _ _ _ _ h4, ⟨g, h1, (name, des), h3, rfl⟩, rfl⟩)⟩
  | update g info name des obs body h1 h2 h3 h4 h5 =>
    obtain ⟨hb, _, _⟩ := Mc.C06.C06_update_inv _ _ _ _ _ _ h5
    exact ⟨info, ⟨_, _, h2⟩, Or.inr (Or.inr (Or.inl ⟨obs, des, body, occurs_of_group_lookup _ _ _ _ h4, ⟨g, h1, (name, des), h3, rfl⟩, hb, rfl⟩))⟩
  | create g info name des h1 h2 h3 h4 =>
    exact ⟨info, ⟨_, _, h2⟩, Or.inr (Or.inr (Or.inr ⟨des, ⟨g, h1, (name, des), h3, rfl⟩, rfl⟩))⟩

inductive ManagedReqSsa (fm : String) (kt : KindTable) (parentRef : OwnerRef) (observed desired : ObjMap) : Req → Prop where
  | orphan (g : GVK × List (String × J)) (info : KindInfo) (name : String) (obj : J) :
      g ∈ observed → kt.find (gvkAPIVersion g.1) g.1.kind = some info → (name, obj) ∈ g.2 →
      isDeleting obj = false → ((desired.group g.1).map (·.1)).contains name = false →
      ManagedReqSsa fm kt parentRef observed desired (.api .delete (tgt info obj) .null (deleteOpts (getUID obj)))
  /-- removal of the dynamic-apply annotation from an observed child that still carries it -/
  | patchRemove (g : GVK × List (String × J)) (info : KindInfo) (name : String) (des obs : J) :
      g ∈ desired → kt.find (gvkAPIVersion g.1) g.1.kind = some info → (name, des) ∈ g.2 →
      (observed.group g.1).lookup name = some obs → hasKey lastAppliedAnnotation ((getAnnotations obs).getD []) = true →
      ManagedReqSsa fm kt parentRef observed desired (.api .patchRemove (tgt info des) .null .null)
  | apply (g : GVK × List (String × J)) (info : KindInfo) (name : String) (des : J) :
      g ∈ desired → kt.find (gvkAPIVersion g.1) g.1.kind = some info → (name, des) ∈ g.2 →
      ManagedReqSsa fm kt parentRef observed desired (.api .apply (tgt info des) (applyBody parentRef des) (applyOpts fm))

theorem C02_manage_requests_ssa (mks sys : List String) (children : List ChildRes) (fm : String) (kt : KindTable) (parentRef : OwnerRef)
    (observed desired : ObjMap) (memo : Memo) :
    AllCalls (ManagedReqSsa fm kt parentRef observed desired)
      (manageChildren mks sys children (some fm) kt parentRef observed desired memo) := by
  rw [manageChildren_eq]
  refine AllCalls.bind (AllCalls.groupLoop _ _ _ _ fun g hg info hk m =>
    deleteGroup_calls _ _ _ _ _ fun name obj hno => .orphan g info name obj hg hk hno) fun a => ?_
  refine AllCalls.bind (AllCalls.groupLoop _ _ _ _ fun g hg info hk m => ?_) fun _ => .ret _
  rw [updateGroup_eq_collect]
  refine AllCalls.collect _ _ _ fun nd hnd m' => (ssaOne_calls ..).mono ?_
  obtain ⟨name, des⟩ := nd
  rintro r (⟨rfl, o, ho, hk'⟩ | rfl)
  · exact .patchRemove g info name des o hg hk hnd ho hk'
  · exact .apply g info name des hg hk hnd

/-- **C02_delete_guard**: whatever the apply mode, every delete issued by `manageChildren` carries
    `preconditions.uid` = the UID of an observed object, and `propagationPolicy = "Background"` -/
theorem C02_delete_guard (mks sys : List String) (children : List ChildRes) (ssa : Option String) (kt : KindTable) (parentRef : OwnerRef)
    (observed desired : ObjMap) (memo : Memo) :
    AllCalls (fun r => r.verb? = some .delete →
        ∃ o, Occurs observed o ∧ strAt r.opts ["preconditions", "uid"] = getUID o ∧ strAt r.opts ["propagationPolicy"] = "Background")
      (manageChildren mks sys children ssa kt parentRef observed desired memo) := by
  cases ssa with
  | none =>
    refine AllCalls.mono ?_ (C02_manage_requests mks sys children kt parentRef observed desired memo)
    rintro r ⟨info, _, ⟨o, ho, rfl⟩ | ⟨o, d, ho, _, rfl⟩ | ⟨o, d, b, _, _, _, rfl⟩ | ⟨d, _, rfl⟩⟩ hv
    · exact ⟨o, ho, Mc.C06.C06_delete_options _⟩
    · exact ⟨o, ho, Mc.C06.C06_delete_options _⟩
    · cases hv
    · cases hv
  | some fm =>
    refine AllCalls.mono ?_ (C02_manage_requests_ssa mks sys children fm kt parentRef observed desired memo)
    intro r h hv
    cases h with
    | orphan g info name obj h1 h2 h3 h4 h5 =>
      exact ⟨obj, ⟨g, h1, (name, obj), h3, rfl⟩, Mc.C06.C06_delete_options _⟩
    | patchRemove => cases hv
    | apply => cases hv

inductive RevReq (ns : String) (observed : List J) (desired : List (J × List CGroup)) : Req → Prop where
  | delete (rev : J) : rev ∈ observed → (desired.map (fun d => getName d.1)).contains (getName rev) = false →
      RevReq ns observed desired (.api .delete (revTarget ns (getName rev)) .null (.obj [("preconditions", .obj [("uid", .str (getUID rev))])]))
  | update (rev old : J) (ch : List CGroup) : (rev, ch) ∈ desired → old ∈ observed → getName old = getName rev →
      revUnchanged old ch = false →
      RevReq ns observed desired (.api .update (revTarget ns (getName rev)) (setRevChildren old ch) .null)
  | create (rev : J) (ch : List CGroup) : (rev, ch) ∈ desired → (∀ o ∈ observed, getName o ≠ getName rev) →
      RevReq ns observed desired (.api .create (revTarget ns (getName rev)) (setRevChildren rev ch) .null)

/-- every request of `manageRevisions` is a `RevReq`; the errors it makes up are plain failures -/
theorem manageRevisions_spec {tm : Bool} (ns : String) (observed : List J) (desired : List (J × List CGroup)) :
    PE.SatE (RevReq ns observed desired) tm (manageRevisions ns observed desired) := by
  unfold manageRevisions
  dsimp only
  split
  · exact PE.sat_fail _
  refine PE.sat_bind (PE.sat_forM _ _ fun rev hrev => ?_) fun _ => PE.sat_forM _ _ fun d hd => ?_
  · split
    · exact PE.sat_pure _
    · rename_i hc
      refine PE.sat_call (.delete rev hrev (by simpa using hc)) fun r => ?_
      split
      · exact PE.sat_fail _
      · exact PE.sat_pure _
  · obtain ⟨rev, ch⟩ := d
    dsimp only
    split
    · rename_i old hf
      split
      · exact PE.sat_pure _
      · rename_i hc
        refine PE.sat_call (.update rev old ch hd (List.mem_of_find?_eq_some hf) (by simpa using List.find?_some hf)
          (by simpa using hc)) fun r => ?_
        split
        · exact PE.sat_fail _
        · exact PE.sat_pure _
    · rename_i hf
      refine PE.sat_call (.create rev ch hd fun o ho => by simpa using List.find?_eq_none.mp hf o ho) fun r => ?_
      split
      · exact PE.sat_fail _
      · exact PE.sat_pure _

theorem C02_revision_requests (ns : String) (observed : List J) (desired : List (J × List CGroup)) :
    AllCalls (RevReq ns observed desired) (manageRevisions ns observed desired : Prog _) :=
  (manageRevisions_spec (tm := false) ns observed desired).calls

/-- every delete of a ControllerRevision is guarded by the UID of an observed revision -/
theorem C02_revision_delete_guard (ns : String) (observed : List J) (desired : List (J × List CGroup)) :
    AllCalls (fun r => r.verb? = some .delete →
        ∃ rev ∈ observed, r.target? = some (revTarget ns (getName rev)) ∧
          r.opts = .obj [("preconditions", .obj [("uid", .str (getUID rev))])] ∧
          strAt r.opts ["preconditions", "uid"] = getUID rev)
      (manageRevisions ns observed desired : Prog _) := by
  refine AllCalls.mono ?_ (C02_revision_requests ns observed desired)
  intro r h hv
  cases h with
  | delete rev h1 h2 => exact ⟨rev, h1, rfl, rfl, by simp [Req.opts, strAt, nestedField, lookup]⟩
  | update => cases hv
  | create => cases hv

/-- **C02_claim_requests**: a claim round only reads the parent, and reads / updates objects it decided to adopt
    or release; the updates are edits of the owner references of a freshly read object with the observed UID -/
theorem C02_claim_requests (cx : ClaimCtx) (objs : List J) (st : AdoptState) :
    AllCalls (fun r => ∃ o ∈ objs, ClaimOneReq cx o r) (claimAll cx objs st) := claimAll_calls cx objs st

/-- in the property's words: every request is a GET of the parent, or a GET / UPDATE on the target of an object to adopt or release -/
theorem C02_claim_requests_targets (cx : ClaimCtx) (objs : List J) (st : AdoptState) :
    AllCalls (fun r => r = .api .get cx.parentT .null .null ∨
        ∃ o ∈ objs, (cx.decision o = .adopt ∨ cx.decision o = .release) ∧ r.target? = some (cx.childT o) ∧
          (r.verb? = some .get ∨ r.verb? = some .update))
      (claimAll cx objs st) := by
  refine AllCalls.mono ?_ (claimAll_calls cx objs st)
  rintro r ⟨o, ho, h⟩
  rcases h with ⟨_, rfl⟩ | ⟨hd, h⟩ | ⟨hd, h⟩
  · exact Or.inl rfl
  · refine Or.inr ⟨o, ho, Or.inl hd, ?_⟩
    rcases h with rfl | ⟨cur, upd, _, _, rfl⟩
    · exact ⟨rfl, Or.inl rfl⟩
    · exact ⟨rfl, Or.inr rfl⟩
  · refine Or.inr ⟨o, ho, Or.inr hd, ?_⟩
    rcases h with rfl | ⟨cur, upd, _, _, rfl⟩
    · exact ⟨rfl, Or.inl rfl⟩
    · exact ⟨rfl, Or.inr rfl⟩

/-- objects that are ignored or kept (controlled by someone else, non-matching orphans, already ours, …)
    are never written: every write of a claim round targets an object to adopt or release -/
theorem C02_claim_no_foreign_write (cx : ClaimCtx) (objs : List J) (st : AdoptState) :
    AllCalls (fun r => r.isWrite = true →
        ∃ o ∈ objs, (cx.decision o = .adopt ∨ cx.decision o = .release) ∧ r.target? = some (cx.childT o) ∧ r.verb? = some .update)
      (claimAll cx objs st) := by
  refine AllCalls.mono ?_ (C02_claim_requests_targets cx objs st)
  rintro r h hw
  rcases h with rfl | ⟨o, ho, hd, ht, hv⟩
  · cases (Req.isWrite_get ..).symm.trans hw
  · rcases hv with hv | hv
    · simp [Req.isWrite, hv, Verb.isWrite] at hw
    · exact ⟨o, ho, hd, ht, hv⟩

/-- **C02_create_owner**: a created child carries the references the hook gave it, then the parent's -/
theorem C02_create_owner (ref : OwnerRef) (d : J) (h : MetaOK d) :
    getOwnerRefs (createBody ref d) = getOwnerRefs (setLastApplied d d) ++ [ref] := by
  unfold createBody
  exact getOwnerRefs_setOwnerRefs _ _ (metaOK_setLastApplied d d h)

/-- if the hook's object names no controller, the created child's controller is the parent -/
theorem C02_create_controller (ref : OwnerRef) (d : J) (h : MetaOK d) (hc : ref.controller = some true)
    (hn : controllerOf d = none) : controllerOf (createBody ref d) = some ref :=
  controllerOf_append (by rw [C02_create_owner ref d h, getOwnerRefs_setLastApplied]) hc hn

/-- a hook object whose `metadata` is not a map is sent as is, without controller reference
    (the API server rejects such an object): the hypothesis `MetaOK` is needed -/
theorem C02_create_owner_needs_meta :
    ∃ ref d, ref.controller = some true ∧ controllerOf (createBody ref d) = none :=
  ⟨{ apiVersion := "v1", kind := "P", name := "p", uid := "u", controller := some true, blockOwnerDeletion := some true },
   .obj [("metadata", .null)], rfl, by decide⟩

theorem C02_apply_owner (ref : OwnerRef) (d : J) (h : MetaOK d) :
    getOwnerRefs (applyBody ref d) =
      if (getOwnerRefs d).any (·.uid == ref.uid) then getOwnerRefs d else getOwnerRefs d ++ [ref] := by
  unfold applyBody
  split
  · rfl
  · exact getOwnerRefs_setOwnerRefs _ _ h

/-- server-side apply: the applied object's controller is the parent if the hook's object names no controller
    **and** carries no reference with the parent's UID -/
theorem C02_apply_controller (ref : OwnerRef) (d : J) (h : MetaOK d) (hc : ref.controller = some true)
    (hn : controllerOf d = none) (hu : (getOwnerRefs d).any (·.uid == ref.uid) = false) :
    controllerOf (applyBody ref d) = some ref :=
  controllerOf_append (by rw [C02_apply_owner ref d h, hu, if_neg Bool.false_ne_true]) hc hn

/-- the extra hypothesis of `C02_apply_controller` is needed: a hook object that already carries a
    non-controller reference with the parent's UID is applied without controller reference -/
theorem C02_apply_controller_partial_counterexample :
    ∃ ref d, MetaOK d ∧ ref.controller = some true ∧ controllerOf d = none ∧ controllerOf (applyBody ref d) = none := by
  refine ⟨{ apiVersion := "v1", kind := "P", name := "p", uid := "u", controller := some true, blockOwnerDeletion := some true },
    .obj [("metadata", .obj [("name", .str "c"), ("ownerReferences", .arr [.obj [("apiVersion", .str "v1"), ("kind", .str "P"),
      ("name", .str "p"), ("uid", .str "u")]])])], ?_, rfl, by decide, by decide⟩
  intro m hm
  simp [J.fields] at hm
  subst hm; rfl

theorem sys_has_uid : "uid" ∈ Generated.objectMetaSystemFields := by decide +kernel
theorem sys_has_resourceVersion : "resourceVersion" ∈ Generated.objectMetaSystemFields := by decide +kernel

/-- **C02_update_keeps_identity**: the body of an update carries the UID and the resourceVersion of the
    observed object, whatever the hook put there: an accepted update is an update of the observed version -/
theorem C02_update_keeps_identity (mks sys : List String) (obs des new : J) (uid rv : J)
    (h : applyUpdate mks sys obs des = .ok new) (hu : "uid" ∈ sys) (hr : "resourceVersion" ∈ sys)
    (ou : nestedField obs ["metadata", "uid"] = .ok (some uid))
    (orv : nestedField obs ["metadata", "resourceVersion"] = .ok (some rv)) :
    nestedField new ["metadata", "uid"] = nestedField obs ["metadata", "uid"] ∧
    nestedField new ["metadata", "resourceVersion"] = nestedField obs ["metadata", "resourceVersion"] := by
  rw [ou, orv]
  exact ⟨applyUpdate_keeps_meta mks sys obs des new "uid" uid h hu (by decide) ou,
         applyUpdate_keeps_meta mks sys obs des new "resourceVersion" rv h hr (by decide) orv⟩

/-- the same through the typed accessors, for the list of system fields read from the Go source -/
theorem C02_update_keeps_identity_generated (mks : List String) (obs des new : J) (uid rv : J)
    (h : applyUpdate mks Generated.objectMetaSystemFields obs des = .ok new)
    (ou : nestedField obs ["metadata", "uid"] = .ok (some uid))
    (orv : nestedField obs ["metadata", "resourceVersion"] = .ok (some rv)) :
    getUID new = getUID obs ∧ getResourceVersion new = getResourceVersion obs := by
  obtain ⟨a, b⟩ := C02_update_keeps_identity mks _ obs des new uid rv h sys_has_uid sys_has_resourceVersion ou orv
  unfold getUID getResourceVersion strAt
  rw [a, b]
  exact ⟨rfl, rfl⟩

/-- `ApplyUpdate` never changes `.status`: present with the observed value when the observed object has one,
    absent when it has none -/
theorem applyUpdate_status_kept (mks sys : List String) (obs des new : J)
    (h : applyUpdate mks sys obs des = .ok new) : nestedField new ["status"] = nestedField obs ["status"] := by
  obtain ⟨last, merged, r1, r2, _, _, h2, h3, rfl⟩ := applyUpdate_inv _ _ _ _ _ h
  obtain ⟨a, b⟩ := revertField_top_same _ _ _ _ h3
  rw [setLastApplied_eq, nestedField_setStringMapAt_top_other _ _ _ _ _ (by decide) b]
  exact a

-- non-vacuity: the hook tries to overwrite uid, resourceVersion and status
example : ∃ new, applyUpdate ["name"] Generated.objectMetaSystemFields
    (.obj [("metadata", .obj [("name", .str "c"), ("uid", .str "u1"), ("resourceVersion", .str "7")]),
           ("spec", .obj [("image", .str "v1")]), ("status", .obj [("ready", .bool true)])])
    (.obj [("metadata", .obj [("name", .str "c"), ("uid", .str "bogus"), ("resourceVersion", .str "1")]),
           ("spec", .obj [("image", .str "v2")]), ("status", .obj [("ready", .bool false)])]) = .ok new ∧
    getUID new = "u1" ∧ getResourceVersion new = "7" ∧
    (match new.getPath? ["status", "ready"] with | some (.bool true) => true | _ => false) = true ∧
    strAt new ["spec", "image"] = "v2" := by
  refine ⟨_, rfl, ?_⟩
  decide

example : getOwnerRefs (createBody { apiVersion := "v1", kind := "P", name := "p", uid := "u", controller := some true, blockOwnerDeletion := some true }
    (.obj [("kind", .str "C"), ("metadata", .obj [("name", .str "c")])])) =
    [{ apiVersion := "v1", kind := "P", name := "p", uid := "u", controller := some true, blockOwnerDeletion := some true }] := by decide +kernel

/-! A concrete parent with one stale and one missing child. -/

def exInfo : KindInfo := { group := "", resource := "configmaps", namespaced := true }
def exKt : KindTable := [(("v1", "ConfigMap"), exInfo)]
def exGVK : GVK := { group := "", version := "v1", kind := "ConfigMap" }
def exRef : OwnerRef :=
  { apiVersion := "ex/v1", kind := "P", name := "p", uid := "u-p", controller := some true, blockOwnerDeletion := some true }
def exObs : J := .obj [("apiVersion", .str "v1"), ("kind", .str "ConfigMap"),
  ("metadata", .obj [("name", .str "old"), ("namespace", .str "ns"), ("uid", .str "u-old")])]
def exDes : J := .obj [("apiVersion", .str "v1"), ("kind", .str "ConfigMap"),
  ("metadata", .obj [("name", .str "new"), ("namespace", .str "ns")])]

-- dynamic apply: the stale child is deleted under its UID, then (whatever the answer) the missing one is created
example : ∃ k k', manageChildren ["name"] ["uid"] [] none exKt exRef [(exGVK, [("ns/old", exObs)])] [(exGVK, [("ns/new", exDes)])] [] =
      .call (.api .delete ⟨"", "configmaps", "ns", "old"⟩ .null (deleteOpts "u-old")) k ∧
    k (.err "Forbidden") = .call (.api .create ⟨"", "configmaps", "ns", "new"⟩ (createBody exRef exDes) .null) k' :=
  ⟨_, _, rfl, rfl⟩

-- server-side apply: delete, then apply of `applyBody`
example : ∃ k k', manageChildren ["name"] ["uid"] [] (some "metacontroller") exKt exRef [(exGVK, [("ns/old", exObs)])] [(exGVK, [("ns/new", exDes)])] [] =
      .call (.api .delete ⟨"", "configmaps", "ns", "old"⟩ .null (deleteOpts "u-old")) k ∧
    k (.obj .null) = .call (.api .apply ⟨"", "configmaps", "ns", "new"⟩ (applyBody exRef exDes) (applyOpts "metacontroller")) k' :=
  ⟨_, _, rfl, rfl⟩

-- method Recreate: the delete is addressed by the desired object's name and guarded by the observed UID
example : ∃ k, childStep ["name"] ["uid"] "Recreate" ⟨"", "configmaps", "ns", "old"⟩ exRef (some exObs)
      (.obj [("apiVersion", .str "v1"), ("kind", .str "ConfigMap"),
          ("metadata", .obj [("name", .str "old"), ("namespace", .str "ns")]), ("data", .obj [("k", .str "v")])]) =
      .call (.api .delete ⟨"", "configmaps", "ns", "old"⟩ .null (deleteOpts "u-old")) k :=
  ⟨_, rfl⟩

-- a stale ControllerRevision is deleted under its UID
example : ∃ k, (manageRevisions "ns" [.obj [("metadata", .obj [("name", .str "rev1"), ("namespace", .str "ns"), ("uid", .str "u-r")])]] [] : Prog _) =
    .call (.api .delete (revTarget "ns" "rev1") .null (.obj [("preconditions", .obj [("uid", .str "u-r")])])) k :=
  ⟨_, rfl⟩

-- claiming: a matching orphan is adopted after a live GET of the parent; an object controlled by someone else is not touched
def exCx : ClaimCtx :=
  { parentT := ⟨"ex", "ps", "ns", "p"⟩, parent := .obj [("metadata", .obj [("name", .str "p"), ("namespace", .str "ns"), ("uid", .str "u-p")])],
    parentRef := exRef, selector := .reqs [], childT := fun o => tgt exInfo o }
def exForeign : J := .obj [("metadata", .obj [("name", .str "f"), ("namespace", .str "ns"), ("uid", .str "u-f"),
  ("ownerReferences", .arr [.obj [("apiVersion", .str "v1"), ("kind", .str "Q"), ("name", .str "q"), ("uid", .str "u-q"), ("controller", .bool true)]])])]

example : exCx.decision exObs = .adopt ∧ exCx.decision exForeign = .ignore := by decide +kernel
example : ∃ k, claimAll exCx [exForeign, exObs] none = .call (.api .get ⟨"ex", "ps", "ns", "p"⟩ .null .null) k := ⟨_, rfl⟩
example : claimAll exCx [exForeign] none = .ret ([], []) := rfl

end Mc.C02
