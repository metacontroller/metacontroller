import Mc.Proofs.ProgLemmas
import Mc.Sync.Decorator
import Mc.Proofs.JsonLemmas
/-
  C16, the footprint of the decorator on its target, as a theorem about every request body `decoratorParentUpdate`
  builds: whatever the hook answered, the body of the status write and of the object write is the target the sync
  holds with nothing changed but `status`, `metadata.labels`, `metadata.annotations`, `metadata.finalizers` and
  `metadata.resourceVersion` (the version returned by the status write) - spec, every other top-level field and every
  other metadata field are those of the target.  Which label / annotation keys change is `C16_string_map_pointwise`.
-/
namespace Mc
namespace C16
open Prog

/-- the metadata fields a decorator may write -/
def ownMeta : List String := ["labels", "annotations", "finalizers", "resourceVersion"]

/-- `y` is `x` with nothing changed outside `status` and the four metadata fields of `ownMeta` -/
def Foot (x y : J) : Prop :=
  ∃ xs ys mx my, x = .obj xs ∧ y = .obj ys ∧ lookup "metadata" xs = some (.obj mx) ∧ lookup "metadata" ys = some (.obj my) ∧
    (∀ k, k ≠ "metadata" → k ≠ "status" → lookup k ys = lookup k xs) ∧
    (∀ f, f ∉ ownMeta → lookup f my = lookup f mx)

theorem Foot.refl (xs mx : KVs) (h : lookup "metadata" xs = some (.obj mx)) : Foot (.obj xs) (.obj xs) :=
  ⟨xs, xs, mx, mx, rfl, rfl, h, h, fun _ _ _ => rfl, fun _ _ => rfl⟩

/-- writing one of the fields of `ownMeta` stays within the footprint of `p`. The write has the form that `setStringMapAt`,
    `setFinalizers` and the resourceVersion step of `decoratorParentUpdate` unfold to: the object is kept if the write
    fails (under `Foot p x` it does not) -/
theorem foot_setMeta {p x : J} (v : J) (f : String) (hf : f ∈ ownMeta) (h : Foot p x) :
    Foot p (match setNestedField x v ["metadata", f] with | .ok y => y | .error _ => x) := by
  obtain ⟨xs, ys, mx, my, rfl, rfl, hmx, hmy, ha, hb⟩ := h
  simp only [setNestedField, setNestedFieldKVs, J.fields, hmy]
  refine ⟨xs, _, mx, setKey f v my, rfl, rfl, hmx, lookup_setKey_same _ _ _, ?_, ?_⟩
  · intro k hk hs
    rw [lookup_setKey_other _ _ _ _ hk]
    exact ha k hk hs
  · intro f' hf'
    have hne : f' ≠ f := fun e => hf' (e ▸ hf)
    rw [lookup_setKey_other _ _ _ _ hne]
    exact hb f' hf'

theorem foot_setStringMap {p x : J} (f : String) (m : KVs) (hf : f ∈ ownMeta) (h : Foot p x) :
    Foot p (setStringMapAt x ["metadata", f] (some m)) :=
  foot_setMeta (.obj m) f hf h

theorem foot_setFinalizers {p x : J} (fs : List String) (h : Foot p x) : Foot p (setFinalizers x fs) :=
  foot_setMeta _ "finalizers" (by simp [ownMeta]) h

theorem foot_setStatus {p x y : J} (v : J) (hx : Foot p x) (h : setNestedField x v ["status"] = .ok y) : Foot p y := by
  obtain ⟨xs, ys, mx, my, rfl, rfl, hmx, hmy, ha, hb⟩ := hx
  simp only [setNestedField, setNestedFieldKVs, J.fields] at h
  cases h
  refine ⟨xs, _, mx, my, rfl, rfl, hmx, ?_, ?_, hb⟩
  · rw [lookup_setKey_other _ _ _ _ (by decide)]; exact hmy
  · intro k hm hk
    rw [lookup_setKey_other _ _ _ _ hk]
    exact ha k hm hk

/-- **C16 (footprint)**: every request `decoratorParentUpdate` sends - the status write and the object write, for every
    hook answer, with or without a status subresource, finalizing or not - carries a body that is the target the sync
    holds with nothing changed outside `status`, `metadata.labels`, `metadata.annotations`, `metadata.finalizers` and
    `metadata.resourceVersion`: `spec`, every other top-level field and every other metadata field (name, namespace,
    UID, owner references, generation, deletion time stamp, ...) are the target's -/
theorem C16_parent_bodies (c : DCfg) (rule : ParentRes) (parent : J) (resp : DecResp) (hp : Foot parent parent) :
    AllCalls (fun q => ∀ v t' b o, q = .api v t' b o → Foot parent b) (decoratorParentUpdate c rule parent resp) := by
  unfold decoratorParentUpdate
  dsimp -zeta only
  extract_lets t pl pa ps u1 u2 jp
  apply PE.allCalls_bind (PE.allCalls_ofExcept _)
  intro parentStatus
  extract_lets ns sc stJ
  have f1 : Foot parent u1 := foot_setStringMap "labels" _ (by simp [ownMeta]) hp
  have f2 : Foot parent u2 := foot_setStringMap "annotations" _ (by simp [ownMeta]) f1
  have hjp : ∀ x, (∀ u', x = some u' → Foot parent u') →
      AllCalls (fun q => ∀ v t' b o, q = .api v t' b o → Foot parent b) (jp x) := by
    intro x hx
    unfold jp
    split
    · exact .ret _
    · rename_i u'
      extract_lets u''
      have fu : Foot parent u'' := by
        unfold u''
        split
        · split
          · exact foot_setFinalizers _ (hx _ rfl)
          · exact hx _ rfl
        · exact hx _ rfl
      apply PE.allCalls_bind (PE.allCalls_lift (.request ?_))
      · intro r
        split <;> exact .ret _
      · intro v t' b o h; cases h; exact fu
  split
  · apply PE.allCalls_bind_ofExcept
    intro u hu
    have fu : Foot parent u := foot_setStatus _ f2 hu
    split
    · apply PE.allCalls_bind (PE.allCalls_lift (.request ?_))
      · intro r
        split
        · rename_i res
          refine hjp (some _) ?_
          intro u' h
          cases h
          exact foot_setMeta _ "resourceVersion" (by simp [ownMeta]) fu
        · exact hjp none (by intro u' h; cases h)
        · exact hjp none (by intro u' h; cases h)
        · exact .ret _
        · exact .ret _
      · intro v t' b o h; cases h; exact fu
    · exact hjp (some u) (by intro u' h; cases h; exact fu)
  · exact .ret _

-- non-vacuity: a target with a metadata map satisfies the hypothesis
example : Foot (.obj [("metadata", .obj [("name", .str "t1"), ("uid", .str "u1")]), ("spec", .obj [("x", .num 1)])])
               (.obj [("metadata", .obj [("name", .str "t1"), ("uid", .str "u1")]), ("spec", .obj [("x", .num 1)])]) :=
  Foot.refl _ _ rfl
-- and the footprint is not trivial: a changed spec is outside it
example : ¬ Foot (.obj [("metadata", .obj []), ("spec", .num 1)]) (.obj [("metadata", .obj []), ("spec", .num 2)]) := by
  rintro ⟨xs, ys, mx, my, hx, hy, _, _, ha, _⟩
  cases hx; cases hy
  have := ha "spec" (by decide +kernel) (by decide +kernel)
  simp [lookup] at this

end C16
end Mc
