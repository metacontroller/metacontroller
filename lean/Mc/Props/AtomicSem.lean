import Mc.Props.C02Sem
import Mc.Proofs.AtomicLemmas
/-
  Read-modify-write (`AtomicUpdate`, `AtomicStatusUpdate`, `UpdateWithRetries`) in the closed world:
  every write that the API server accepts applies the edit to the object that is live at that moment -
  not to a cached or an earlier version - whatever other clients do between the GET and the PUT.
  This is what makes the finalizer edits (C10), adoption and release (C04) and the parent status (C11)
  minimal on the *live* object.
-/
namespace Mc
namespace Atomic
open Api C02

section
variable {hook : String → J → Resp}

theorem get_answer (s : State) (t : Target) (cur : J) (h : (worldStep hook s (.api .get t .null .null)).1 = .obj cur) :
    s.find t = some cur := by
  obtain ⟨d, e⟩ := request_ok (toResp_ok h)
  simp only [worldStep, e, handle] at h
  cases hf : s.find t with
  | none => simp [hf, Api.get, fail, Out.toResp, Out.ok] at h
  | some c =>
    simp [hf, Api.get, Out.toResp, Out.ok] at h
    rw [h]

theorem worldStep_api_evolves (s : State) (v : Verb) (t : Target) (body opts : J) :
    (worldStep hook s (.api v t body opts)).2 = s.exec ⟨v, t, body, opts⟩ := rfl

/-- **linearizable read-modify-write**: in every execution of the retry loop among other clients, an accepted
    write carries `f cur` for the object `cur` that is stored under the target at the moment of acceptance, and
    that object has the expected UID -/
theorem atomicLoop_accepted (t : Target) (uid : String) (f : J → Option J) (verb : Verb) (gone : String)
    (hverb : verb = .update ∨ verb = .updateStatus)
    (hf : ∀ c u, f c = some u → mstr u "resourceVersion" = mstr c "resourceVersion") :
    ∀ (n : Nat) (s : State), Inv s → ∀ (log : List (State × Req × Resp)) (a : Except String J) (s' : State),
      Exec hook (atomicLoop t uid f verb gone n) s log a s' →
      ∀ e ∈ log, ∀ body opts x, e.2.1 = .api verb t body opts → e.2.2 = .obj x →
        ∃ cur, e.1.find t = some cur ∧ f cur = some body ∧ getUID cur = uid := by
  intro n s hinv log a s' hex e he body opts x hreq hresp
  have hg : ¬ ∃ b o, Req.api .get t .null .null = .api verb t b o := by
    rintro ⟨b, o, h⟩
    cases h
    rcases hverb with h | h <;> cases h
  -- every request is the GET or a write; a write follows a GET that answered with `cur`, and carries `f cur`
  have hcalls := exec_log hook _ _ (atomicLoop_calls t uid f verb gone n) s log a s' hex
  rcases exec_writesFollow (atomicLoop_writesFollow (W := fun r => ∃ b o, r = .api verb t b o) t uid f verb gone hg n none)
      s log a s' hex e he ⟨body, opts, hreq⟩
    with ⟨_, _, h, _⟩ | ⟨e0, he0, hnw, ⟨cur, upd, hx, hu, hfc, hr⟩, env, henv⟩
  · cases h
  obtain ⟨hP0, hev0, hans0⟩ := hcalls e0 he0
  have hget : e0.2.1 = .api .get t .null .null := hP0.resolve_right (fun ⟨_, u, _, _, h⟩ => hnw ⟨u, .null, h⟩)
  rw [hget, hx] at hans0
  have hcur := get_answer (hook := hook) _ t cur hans0.symm
  rw [hreq] at hr
  cases hr
  refine ⟨cur, ?_, hfc, hu⟩
  -- the state the PUT met, seen from the state the GET met
  have hans := (hcalls e he).2.2
  rw [hreq, hresp] at hans
  rw [hget] at henv
  have henv' : e.1 = e0.1.execs (⟨.get, t, .null, .null⟩ :: env) := henv
  rw [henv'] at hans ⊢
  have hok := toResp_ok (o := ((e0.1.execs (⟨.get, t, .null, .null⟩ :: env)).request verb t body .null).1) hans.symm
  exact (write_lands_on_observed hverb _ (hev0.inv hinv) t cur hcur _ t body .null (hf cur body hfc) hok).2

end

/-! The edits metacontroller makes keep the resourceVersion of the object they are applied to (`hf` of `atomicLoop_accepted`). -/

theorem mstr_setFinalizers (o : J) (fs : List String) (k : String) (h : k ≠ "finalizers") :
    mstr (setFinalizers o fs) k = mstr o k := mstr_setNested_meta o _ k "finalizers" h

/-- the common shape of `addFinalizerEdit` and `removeFinalizerEdit` -/
theorem setFinalizers_rv {b : Bool} {c u : J} {fs : List String} (h : (if b then none else some (setFinalizers c fs)) = some u) :
    mstr u "resourceVersion" = mstr c "resourceVersion" := by
  cases (Option.ite_none_left_eq_some.mp h).2
  exact mstr_setFinalizers _ _ _ (by decide)

theorem setRefs_rv (cx : ClaimCtx) (c : J) (refs : List OwnerRef) :
    mstr (cx.setRefs c refs) "resourceVersion" = mstr c "resourceVersion" := by
  unfold ClaimCtx.setRefs
  split
  · exact mstr_removeNested_meta _ _ _ (by decide)
  · exact mstr_setOwnerRefs _ _ _ (by decide)

/-- **C10 (semantic)**: whenever the finalizer phase gets a write accepted - in any execution among other clients,
    whatever the cached parent looked like - the body is the *live* parent with this controller's finalizer
    appended (it was absent) or filtered out (it was present); everything else of the live parent is kept, and
    the live parent has the UID of the one the sync started from -/
theorem C10_finalizer_edit_on_live (hook : String → J → Resp) (fz : Finalizer) (t : Target) (obj : J) (s : State) (hinv : Inv s)
    (log : List (State × Req × Resp)) (a : Except String J) (s' : State)
    (hex : Exec hook (fz.syncObject t obj) s log a s') :
    ∀ e ∈ log, ∀ body opts x, e.2.1 = .api .update t body opts → e.2.2 = .obj x →
      ∃ cur, e.1.find t = some cur ∧ getUID cur = getUID obj ∧
        ((hasFinalizer cur fz.name = false ∧ fz.enabled = true ∧ isDeleting obj = false ∧
            body = setFinalizers cur (getFinalizers cur ++ [fz.name])) ∨
         (hasFinalizer cur fz.name = true ∧ fz.enabled = false ∧
            body = setFinalizers cur ((getFinalizers cur).filter (· != fz.name)))) := by
  intro e he body opts x hreq hresp
  unfold Finalizer.syncObject at hex
  split at hex
  · cases hex
    cases he
  · split at hex
    · rename_i hen
      split at hex
      · cases hex
        cases he
      · rename_i hdel
        obtain ⟨cur, h1, h2, h3⟩ := atomicLoop_accepted (hook := hook) t (getUID obj) (addFinalizerEdit fz.name) .update "NotFound"
          (.inl rfl) (fun _ _ => setFinalizers_rv) retrySteps s hinv log a s' hex e he body opts x hreq hresp
        refine ⟨cur, h1, h3, .inl ?_⟩
        obtain ⟨hh, e⟩ := Option.ite_none_left_eq_some.mp h2
        cases e
        exact ⟨by simpa using hh, hen, by simpa using hdel, rfl⟩
    · rename_i hen
      obtain ⟨cur, h1, h2, h3⟩ := atomicLoop_accepted (hook := hook) t (getUID obj) (removeFinalizerEdit fz.name) .update "NotFound"
        (.inl rfl) (fun _ _ => setFinalizers_rv) retrySteps s hinv log a s' hex e he body opts x hreq hresp
      refine ⟨cur, h1, h3, .inr ?_⟩
      obtain ⟨hh, e⟩ := Option.ite_none_left_eq_some.mp h2
      cases e
      exact ⟨by simpa using hh, by simpa using hen, rfl⟩

/-- **C04 (semantic), release**: an accepted release writes the live object with exactly the references whose UID is
    the parent's removed - references others added after the cache was filled are kept -/
theorem C04_release_on_live (hook : String → J → Resp) (cx : ClaimCtx) (obj : J) (s : State) (hinv : Inv s)
    (log : List (State × Req × Resp)) (a : Except String J) (s' : State)
    (hex : Exec hook (atomicLoop (cx.childT obj) (getUID obj)
      (fun cur => some (cx.setRefs cur (removeOwnerReference (getOwnerRefs cur) (getUID cx.parent)))) .update cx.goneReason retrySteps) s log a s') :
    ∀ e ∈ log, ∀ body opts x, e.2.1 = .api .update (cx.childT obj) body opts → e.2.2 = .obj x →
      ∃ cur, e.1.find (cx.childT obj) = some cur ∧ getUID cur = getUID obj ∧
        body = cx.setRefs cur ((getOwnerRefs cur).filter (·.uid != getUID cx.parent)) := by
  intro e he body opts x hreq hresp
  obtain ⟨cur, h1, h2, h3⟩ := atomicLoop_accepted (hook := hook) _ _ _ .update _ (.inl rfl)
    (fun c u h => by cases h; exact setRefs_rv cx c _) retrySteps s hinv log a s' hex e he body opts x hreq hresp
  cases h2
  exact ⟨cur, h1, h3, rfl⟩

/-- **C04 (semantic), adoption**: an accepted adoption writes the live object with the parent's controller
    reference added to (or replacing the parent's entry in) the references it has at that moment -/
theorem C04_adopt_on_live (hook : String → J → Resp) (cx : ClaimCtx) (obj : J) (s : State) (hinv : Inv s)
    (log : List (State × Req × Resp)) (a : Except String J) (s' : State)
    (hex : Exec hook (atomicLoop (cx.childT obj) (getUID obj)
      (fun cur => some (cx.setRefs cur (addOwnerReference (getOwnerRefs cur) cx.parentRef))) .update cx.goneReason retrySteps) s log a s') :
    ∀ e ∈ log, ∀ body opts x, e.2.1 = .api .update (cx.childT obj) body opts → e.2.2 = .obj x →
      ∃ cur, e.1.find (cx.childT obj) = some cur ∧ getUID cur = getUID obj ∧
        body = cx.setRefs cur (addOwnerReference (getOwnerRefs cur) cx.parentRef) := by
  intro e he body opts x hreq hresp
  obtain ⟨cur, h1, h2, h3⟩ := atomicLoop_accepted (hook := hook) _ _ _ .update _ (.inl rfl)
    (fun c u h => by cases h; exact setRefs_rv cx c _) retrySteps s hinv log a s' hex e he body opts x hreq hresp
  cases h2
  exact ⟨cur, h1, h3, rfl⟩

/-- **C11 (semantic)**: an accepted parent-status write is the live parent - the one with the UID of the parent the
    hooks were sent, never a same-named successor - with `.status` replaced by hook status + observedGeneration and
    nothing else touched; it is only sent when the live status differs -/
theorem C11_status_on_live (hook : String → J → Resp) (c : Cfg) (parent : J) (status : Option KVs) (s : State) (hinv : Inv s)
    (log : List (State × Req × Resp)) (a : Except String J) (s' : State)
    (hex : Exec hook (updateParentStatus c parent status) s log a s') :
    let st : J := .obj (setKey "observedGeneration" (.num (getGeneration parent)) (status.getD []))
    let verb : Verb := if c.parentHasStatus then .updateStatus else .update
    ∀ e ∈ log, ∀ body opts x, e.2.1 = .api verb (c.parentTarget parent) body opts → e.2.2 = .obj x →
      ∃ cur, e.1.find (c.parentTarget parent) = some cur ∧ getUID cur = getUID parent ∧
        body = .obj (setKey "status" st cur.fields) ∧ ((cur.get? "status").getD .null).eqv st = false := by
  intro st verb e he body opts x hreq hresp
  unfold updateParentStatus at hex
  have hv : verb = .update ∨ verb = .updateStatus := by
    by_cases h : c.parentHasStatus = true <;> simp [verb, h]
  obtain ⟨cur, h1, h2, h3⟩ := atomicLoop_accepted (hook := hook) _ _ _ verb _ hv
    (fun c' u h => by
      cases (Option.ite_none_left_eq_some.mp h).2
      exact mstr_of_metaOf_eq (metaOf_setKey_other _ _ _ (by decide)) _)
    retrySteps s hinv log a s' hex e he body opts x hreq hresp
  refine ⟨cur, h1, h3, ?_⟩
  obtain ⟨hne, e⟩ := Option.ite_none_left_eq_some.mp h2
  cases e
  exact ⟨rfl, by simpa using hne⟩

end Atomic
end Mc
