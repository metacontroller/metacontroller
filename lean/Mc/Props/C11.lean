import Mc.Props.C10Sync
/-
  C11 - parent status: `updateParentStatus` is a read-modify-write of the parent object only; what it
  writes is the object it just read with `.status` replaced by the hook's status plus `observedGeneration`;
  nothing is written when the live object is another incarnation (UID) or already has that status; at most
  `retrySteps` attempts; and it runs whatever happened to the children.
-/
namespace Mc.C11
open Mc Prog

def wantedStatus (parent : J) (status : Option KVs) : J :=
  .obj (setKey "observedGeneration" (.num (getGeneration parent)) (status.getD []))

/-- the verb of the status write: the status subresource when the parent resource has one -/
def statusVerb (c : Cfg) : Verb := if c.parentHasStatus then .updateStatus else .update

theorem statusVerb_isWrite (c : Cfg) : (statusVerb c).isWrite = true := by
  unfold statusVerb; split <;> rfl

theorem statusVerb_ne_get (c : Cfg) : statusVerb c ≠ .get := by
  unfold statusVerb; split <;> decide

/-- `updateParentStatus`, with its parameters named -/
theorem updateParentStatus_eq (c : Cfg) (parent : J) (status : Option KVs) :
    updateParentStatus c parent status =
      atomicLoop (c.parentTarget parent) (getUID parent)
        (fun cur => if ((cur.get? "status").getD .null).eqv (wantedStatus parent status) then none
                    else some (.obj (setKey "status" (wantedStatus parent status) cur.fields)))
        (statusVerb c) "NotFound" retrySteps := rfl

/-- C11.9 - footprint: GETs of the parent and writes of the parent with the one status verb, nothing else -/
theorem C11_footprint (c : Cfg) (parent : J) (status : Option KVs) :
    AllCalls (fun r => r.onTarget (c.parentTarget parent) = true ∧
        (r.verb? = some .get ∨ r.verb? = some (if c.parentHasStatus then .updateStatus else .update)))
      (updateParentStatus c parent status) := by
  refine atomicLoop_calls_of _ _ _ _ _ ?_ (fun b => ?_) _
  · exact ⟨Req.onTarget_self _ _ _ _, Or.inl rfl⟩
  · exact ⟨Req.onTarget_self _ _ _ _, Or.inr rfl⟩

/-- what a write of `updateParentStatus` must look like, given the answer `x` to the request just before it -/
def StatusWrite (c : Cfg) (parent : J) (status : Option KVs) (x : Resp) (r : Req) : Prop :=
  ∃ cur, x = .obj cur ∧ getUID cur = getUID parent ∧
    ((cur.get? "status").getD .null).eqv (wantedStatus parent status) = false ∧
    r = .api (statusVerb c) (c.parentTarget parent) (.obj (setKey "status" (wantedStatus parent status) cur.fields)) .null

/-- C11.10 - body: every write is issued immediately after a read (the GET of the parent), and it sends the object
    `cur` that this GET returned - same UID as the cached parent, status not yet as wanted - with `.status`
    replaced by the wanted status and every other field untouched -/
theorem C11_body (c : Cfg) (parent : J) (status : Option KVs) :
    WritesFollow (fun r => r.isWrite = true) (StatusWrite c parent status) none (updateParentStatus c parent status) := by
  rw [updateParentStatus_eq]
  refine WritesFollow.mono (fun x r hx => ?_)
    (atomicLoop_writesFollow _ _ _ _ _ (ne_true_of_eq_false (Req.isWrite_get ..)) _ _)
  obtain ⟨cur, upd, rfl, hu, hf, rfl⟩ := hx
  split at hf
  · cases hf
  · rename_i hne
    cases hf
    exact ⟨cur, rfl, hu, by simpa using hne, rfl⟩

theorem updateParentStatus_first (c : Cfg) (parent : J) (status : Option KVs) :
    ∃ k, updateParentStatus c parent status = .call (.api .get (c.parentTarget parent) .null .null) k ∧
      (∀ cur, getUID cur ≠ getUID parent → k (.obj cur) = .ret (.error "NotFound")) ∧
      (∀ cur, getUID cur = getUID parent → ((cur.get? "status").getD .null).eqv (wantedStatus parent status) = true →
        k (.obj cur) = .ret (.ok cur)) := by
  rw [updateParentStatus_eq]
  unfold retrySteps
  rw [atomicLoop_succ]
  refine ⟨_, rfl, ?_, ?_⟩
  · intro cur hne
    simp [hne]
  · intro cur he hs
    simp [he, hs]

/-- C11.11a - UID guard: if the GET answers another incarnation of the parent, the program returns
    `NotFound` without any write -/
theorem C11_uid_guard (c : Cfg) (parent : J) (status : Option KVs) :
    ∃ k, updateParentStatus c parent status = .call (.api .get (c.parentTarget parent) .null .null) k ∧
      ∀ cur, getUID cur ≠ getUID parent → k (.obj cur) = .ret (.error "NotFound") := by
  obtain ⟨k, h1, h2, _⟩ := updateParentStatus_first c parent status
  exact ⟨k, h1, h2⟩

/-- C11.11b - no-op: if the GET answers the parent with the wanted status already in place
    (`reflect.DeepEqual`), the program returns that object without any write -/
theorem C11_skip_equal (c : Cfg) (parent : J) (status : Option KVs) :
    ∃ k, updateParentStatus c parent status = .call (.api .get (c.parentTarget parent) .null .null) k ∧
      ∀ cur, getUID cur = getUID parent →
        ((cur.get? "status").getD .null).eqv (wantedStatus parent status) = true → k (.obj cur) = .ret (.ok cur) := by
  obtain ⟨k, h1, _, h3⟩ := updateParentStatus_first c parent status
  exact ⟨k, h1, h3⟩

/-- C11.12 - at most `retrySteps` writes and at most `retrySteps` GETs, on every branch -/
theorem C11_retry_bound (c : Cfg) (parent : J) (status : Option KVs) :
    AtMost (fun r => r.isWrite = true) retrySteps (updateParentStatus c parent status) ∧
    AtMost (fun r => r.verb? = some .get) retrySteps (updateParentStatus c parent status) := by
  rw [updateParentStatus_eq]
  constructor
  · exact atomicLoop_atMost _ _ _ _ _ (.inl (ne_true_of_eq_false (Req.isWrite_get ..))) _
  · refine atomicLoop_atMost _ _ _ _ _ (.inr (fun b => ?_)) _
    simp only [Req.verb?, Option.some.injEq]
    exact statusVerb_ne_get c

/-- the children phase of `compositeAct` -/
def childrenPhase (c : Cfg) (parent : J) (observed desired : ObjMap) (memo : Memo) : Prog (List String × Memo) :=
  if !isDeleting parent || c.finalizer.shouldFinalize parent then
    manageChildren Generated.knownMergeKeys Generated.objectMetaSystemFields c.children c.ssaManager c.kindTable
      (controllerRefTo (getAPIVersion parent) (getKind parent) parent) observed desired memo
  else .ret ([], memo)

/-- how `compositeAct` ends, given the outcome of the children phase and of the status update -/
def actResult (x : List String × Memo) (st : Except String J) : Memo × Except Err Unit :=
  match st with
  | .error "NotFound" | .error "Conflict" => if x.1.isEmpty then (x.2, .ok ()) else (x.2, .error (.fail "can't reconcile children"))
  | .error e => (x.2, .error (.fail s!"can't update status: {e}"))
  | .ok _ => if x.1.isEmpty then (x.2, .ok ()) else (x.2, .error (.fail "can't reconcile children"))

/-- C11.13 - `compositeAct` is: children phase, then - whatever it returned - the status read-modify-write,
    then the verdict -/
theorem C11_after_child_errors (c : Cfg) (parent : J) (observed desired : ObjMap) (status : Option KVs) (memo : Memo) :
    compositeAct c parent observed desired status memo =
      Prog.bind (childrenPhase c parent observed desired memo) (fun x =>
        Prog.bind (updateParentStatus c parent status) (fun st => .ret (actResult x st))) := by
  have hv : ∀ (x : List String × Memo) (st : Except String J),
      (match st with
        | .error "NotFound" | .error "Conflict" =>
            (if x.1.isEmpty then pure (x.2, .ok ()) else pure (x.2, .error (.fail "can't reconcile children")) : Prog (Memo × Except Err Unit))
        | .error e => pure (x.2, .error (.fail s!"can't update status: {e}"))
        | .ok _ => if x.1.isEmpty then pure (x.2, .ok ()) else pure (x.2, .error (.fail "can't reconcile children")))
      = .ret (actResult x st) := by
    intro x st
    unfold actResult
    split
    · split <;> rfl
    · split <;> rfl
    · rfl
    · split <;> rfl
  unfold compositeAct childrenPhase
  dsimp only
  split
  · exact congrArg (Prog.bind _) (funext fun x => congrArg (Prog.bind _) (funext fun st => hv x st))
  · exact congrArg (Prog.bind _) (funext fun x => congrArg (Prog.bind _) (funext fun st => hv x st))

/-- C11.13, read off: for every result of the children phase the continuation starts with the GET of the parent -/
theorem C11_status_follows_children (c : Cfg) (parent : J) (observed desired : ObjMap) (status : Option KVs) (memo : Memo) :
    ∃ K : List String × Memo → Prog (Memo × Except Err Unit),
      compositeAct c parent observed desired status memo = Prog.bind (childrenPhase c parent observed desired memo) K ∧
      ∀ x, ∃ k, K x = .call (.api .get (c.parentTarget parent) .null .null) k := by
  refine ⟨_, C11_after_child_errors c parent observed desired status memo, fun x => ?_⟩
  obtain ⟨k, hk, _⟩ := updateParentStatus_first c parent status
  rw [hk]
  exact ⟨_, rfl⟩

/-! Examples on the configuration of `Mc/Props/C10Sync.lean`. -/

open Mc.C10 in
example : AllCalls (fun r => r.onTarget (exCfg.parentTarget exParent) = true ∧
      (r.verb? = some .get ∨ r.verb? = some .updateStatus))
    (updateParentStatus exCfg exParent (some [("ready", .bool true)])) :=
  C11_footprint exCfg exParent _

/-- another incarnation of the example parent (different UID) -/
def exOther : J :=
  .obj [("apiVersion", .str "example.com/v1"), ("kind", .str "Thing"),
        ("metadata", .obj [("name", .str "a"), ("namespace", .str "ns"), ("uid", .str "u2")])]

/-- the example parent as the API server holds it once the wanted status `{observedGeneration: 0}` is in place -/
def exDone : J :=
  .obj [("apiVersion", .str "example.com/v1"), ("kind", .str "Thing"),
        ("metadata", .obj [("name", .str "a"), ("namespace", .str "ns"), ("uid", .str "u1")]),
        ("status", .obj [("observedGeneration", .num 0)])]

open Mc.C10 in
example : getUID exOther ≠ getUID exParent := by decide +kernel

open Mc.C10 in
example : getUID exDone = getUID exParent ∧
    ((exDone.get? "status").getD .null).eqv (wantedStatus exParent none) = true := by decide +kernel

open Mc.C10 in
example : ∃ k, updateParentStatus exCfg exParent none = .call (.api .get (exCfg.parentTarget exParent) .null .null) k ∧
    k (.obj exOther) = .ret (.error "NotFound") ∧ k (.obj exDone) = .ret (.ok exDone) := by
  obtain ⟨k, h1, h2, h3⟩ := updateParentStatus_first exCfg exParent none
  exact ⟨k, h1, h2 exOther (by decide +kernel), h3 exDone (by decide +kernel) (by decide +kernel)⟩

/-- a write does happen when the live status differs: the discipline of C11.10 is not vacuous -/
theorem C11_write_when_different (c : Cfg) (parent : J) (status : Option KVs) :
    ∃ k, updateParentStatus c parent status = .call (.api .get (c.parentTarget parent) .null .null) k ∧
      ∀ cur, getUID cur = getUID parent → ((cur.get? "status").getD .null).eqv (wantedStatus parent status) = false →
        ∃ k2, k (.obj cur) =
          .call (.api (statusVerb c) (c.parentTarget parent) (.obj (setKey "status" (wantedStatus parent status) cur.fields)) .null) k2 := by
  rw [updateParentStatus_eq]
  unfold retrySteps
  rw [atomicLoop_succ]
  refine ⟨_, rfl, fun cur hu hs => ?_⟩
  simp only [hu, bne_self_eq_false, Bool.false_eq_true, ↓reduceIte, hs]
  exact ⟨_, rfl⟩

open Mc.C10 in
example : AtMost (fun r => r.isWrite = true) 4 (updateParentStatus exCfg exParent none) :=
  (C11_retry_bound exCfg exParent none).1

open Mc.C10 in
example : WritesFollow (fun r => r.isWrite = true) (StatusWrite exCfg exParent none) none
    (updateParentStatus exCfg exParent none) :=
  C11_body exCfg exParent none

open Mc.C10 in
example : ∃ K : List String × Memo → Prog (Memo × Except Err Unit),
    compositeAct exCfg exParent [] [] none [] = Prog.bind (childrenPhase exCfg exParent [] [] []) K ∧
    ∀ x, ∃ k, K x = .call (.api .get (exCfg.parentTarget exParent) .null .null) k :=
  C11_status_follows_children exCfg exParent [] [] none []

end Mc.C11
