import Mc.Hook
/-
  C19 - hook transport: only 200 / valid 304 is an answer; cached bodies match their ETag.
  The theorems about when one call succeeds and what it leaves in the cache are read off `finish_ok` and `finish_cache`.
-/
namespace Mc.C19
open Mc.Hook

theorem supported_iff (m : Mode) (inm : String) (st : Nat) :
    statusSupported m inm st = true ↔ st = 200 ∨ (m.etagEnabled = true ∧ (st = 304 ∨ st = 412) ∧ inm ≠ "") := by
  simp [statusSupported, and_assoc]

theorem decode_ok_iff (m : Mode) (x b : Body) :
    decode m x = .ok b ↔ x = b ∧ (x.cls = .valid ∨ (m.strict = false ∧ x.cls ≠ .invalid)) := by
  unfold decode
  cases x.cls <;> cases m.strict <;> simp

theorem finish_ok (m : Mode) (inm : String) (a : Answer) (cache : ECache) (b : Body)
    (h : (finish m inm a cache).1 = .ok b) :
      (a.status = 200 ∧ decode m a.body = .ok b) ∨
      (m.etagEnabled = true ∧ inm ≠ "" ∧ (a.status = 304 ∨ a.status = 412) ∧
        ∃ e, cache = some e ∧ e.etag = inm ∧ decode m e.body = .ok b) := by
  revert h
  unfold finish
  -- one guard at a time: `split` would simplify the whole nested `if` again at every level
  cases a.status == 429
  case true => exact nofun
  cases hs : !statusSupported m inm a.status
  case true => exact nofun
  have hs := (supported_iff m inm a.status).1 (by simpa using hs)
  cases h4 : inm != "" && (a.status == 304 || a.status == 412)
  case false =>
    have h200 : a.status = 200 := hs.elim id fun ⟨_, h34, hi⟩ => by
      rcases h34 with h | h <;> simp [hi, h] at h4
    cases m.etagEnabled <;> exact fun h => .inl ⟨h200, h⟩
  have ⟨hi, h34⟩ : inm ≠ "" ∧ (a.status = 304 ∨ a.status = 412) := by simpa using h4
  have he : m.etagEnabled = true := hs.elim (fun h200 => by omega) (·.1)
  rw [he]
  cases cache with
  | none => exact nofun
  | some e =>
    dsimp only
    cases h5 : e.etag != inm
    case true => exact nofun
    exact fun h => .inr ⟨rfl, hi, h34, e, rfl, by simpa using h5, h⟩

theorem finish_cache (m : Mode) (inm : String) (a : Answer) (cache : ECache) :
    (finish m inm a cache).2 = cache ∨
      (m.etagEnabled = true ∧ a.etag ≠ "" ∧ (finish m inm a cache).2 = some { etag := a.etag, body := a.body }) := by
  unfold finish
  cases a.status == 429
  case true => exact .inl rfl
  cases !statusSupported m inm a.status
  case true => exact .inl rfl
  cases m.etagEnabled
  case false => exact .inl rfl
  cases inm != "" && (a.status == 304 || a.status == 412)
  case true =>
    cases cache with
    | none => exact .inl rfl
    | some e =>
      dsimp only
      cases e.etag != inm <;> exact .inl rfl
  cases ht : a.etag != ""
  case false => exact .inl rfl
  exact .inr ⟨rfl, by simpa using ht, rfl⟩

/-- a hook call succeeds only on 200 or - ETag support on and If-None-Match sent - on 304/412 -/
theorem C19_success_status (m : Mode) (inm : String) (a : Answer) (cache : ECache) (b : Body)
    (h : (finish m inm a cache).1 = .ok b) :
    a.status = 200 ∨ (m.etagEnabled = true ∧ inm ≠ "" ∧ (a.status = 304 ∨ a.status = 412)) := by
  rcases finish_ok m inm a cache b h with ⟨h, _⟩ | ⟨he, hi, hs, _⟩
  · exact .inl h
  · exact .inr ⟨he, hi, hs⟩

/-- on 304/412 the body used is the one cached together with exactly the ETag that was sent -/
theorem C19_304_body (m : Mode) (inm : String) (a : Answer) (cache : ECache) (b : Body)
    (hs : a.status = 304 ∨ a.status = 412) (h : (finish m inm a cache).1 = .ok b) :
    ∃ e, cache = some e ∧ e.etag = inm ∧ e.body = b ∧ inm ≠ "" := by
  rcases finish_ok m inm a cache b h with ⟨h, _⟩ | ⟨_, hi, _, e, hc, he, hd⟩
  · rcases hs with hs | hs <;> rw [hs] at h <;> cases h
  · exact ⟨e, hc, he, ((decode_ok_iff ..).1 hd).1, hi⟩

/-- 429 yields the delay given by Retry-After, and leaves the cache alone -/
theorem C19_429 (m : Mode) (inm : String) (a : Answer) (cache : ECache) (h : a.status = 429) :
    finish m inm a cache = (.tooMany (retrySeconds a.retryAfter), cache) := by
  simp [finish, h]

theorem C19_retry_table :
    retrySeconds .absent = 0 ∧ retrySeconds .garbage = 0 ∧ (∀ n, retrySeconds (.numeric n) = n) ∧ (∀ d, retrySeconds (.date d) = d) :=
  ⟨rfl, rfl, fun _ => rfl, fun _ => rfl⟩

theorem isOk_false_of_ne_ok {r : Result} (h : ∀ b, r ≠ .ok b) : r.isOk = false := by
  cases r with
  | ok b => exact absurd rfl (h b)
  | _ => rfl

/-- any status other than 200, 304 and 412 is an error -/
theorem C19_other_status_error (m : Mode) (inm : String) (a : Answer) (cache : ECache)
    (h1 : a.status ≠ 200) (h2 : a.status ≠ 304) (h3 : a.status ≠ 412) :
    (finish m inm a cache).1.isOk = false := by
  refine isOk_false_of_ne_ok fun b h => ?_
  rcases C19_success_status m inm a cache b h with h | ⟨_, _, h | h⟩ <;> contradiction

/-- 304 without an If-None-Match header sent is never an answer -/
theorem C19_304_needs_inm (m : Mode) (a : Answer) (cache : ECache) (hs : a.status = 304 ∨ a.status = 412) :
    (finish m "" a cache).1.isOk = false :=
  isOk_false_of_ne_ok fun b h => (C19_304_body m "" a cache b hs h).elim fun _ h => h.2.2.2 rfl

/-- strict mode rejects a response with unknown or duplicate fields and accepts a well-formed one, loose mode accepts
    both; an undecodable body is an error in either -/
theorem C19_strict_table (m : Mode) (b : Body) :
    (b.cls = .valid → decode m b = .ok b) ∧
    (b.cls = .invalid → decode m b = .undecodable) ∧
    ((b.cls = .unknownFields ∨ b.cls = .duplicateFields) → decode m b = (if m.strict then .strictRejected else .ok b)) := by
  refine ⟨?_, ?_, ?_⟩
  · intro h; simp [decode, h]
  · intro h; simp [decode, h]
  · rintro (h | h) <;> simp [decode, h]

/-- without ETag support the cache is never touched -/
theorem C19_plain_cache_untouched (m : Mode) (inm : String) (a : Answer) (cache : ECache) (h : m.etagEnabled = false) :
    (finish m inm a cache).2 = cache :=
  (finish_cache m inm a cache).resolve_right fun h' => by rw [h] at h'; cases h'.1

/-- history invariant: whatever the interleaving, the cache entry (if any) is the initial entry or was
    written by some earlier `Set` together with its ETag -/
def Inv (init : ECache) (s : State) : Prop :=
  s.cache = init ∨ ∃ e ∈ s.sets, s.cache = some e

theorem step_inv (m : Mode) (init : ECache) (s : State) (st : Step) (h : Inv init s) : Inv init (step m s st) := by
  cases st with
  | enrich i => exact h
  | finish i a =>
    simp only [step]
    rcases finish_cache m ((s.inm.lookup i).getD "") a s.cache with hc | ⟨_, _, hc⟩
    · rw [hc, if_pos rfl]; exact h
    · rw [hc]
      split
      · rename_i heq; unfold Inv; rw [heq]; exact h
      · exact .inr ⟨_, List.mem_cons_self, rfl⟩

theorem run_inv (m : Mode) (init : ECache) (steps : List Step) (s : State) (h : Inv init s) :
    Inv init (run m s steps) := by
  induction steps generalizing s with
  | nil => exact h
  | cons st rest ih => exact ih _ (step_inv m init s st h)

/-- for every interleaving of any number of concurrent calls: a call answered 304/412 that succeeds got the body of
    a cache entry carrying exactly the ETag it sent, and that entry is the initial one or was stored by an earlier call -/
theorem C19_304_body_all_schedules (m : Mode) (init : ECache) (steps : List Step) (i : Nat) (a : Answer) (b : Body)
    (hs : a.status = 304 ∨ a.status = 412) :
    let s := run m { cache := init } steps
    (finish m ((s.inm.lookup i).getD "") a s.cache).1 = .ok b →
    ∃ e, s.cache = some e ∧ e.etag = (s.inm.lookup i).getD "" ∧ e.body = b ∧ (some e = init ∨ e ∈ s.sets) := by
  intro s h
  obtain ⟨e, hc, he, hb, _⟩ := C19_304_body m _ a s.cache b hs h
  refine ⟨e, hc, he, hb, ?_⟩
  rcases run_inv m init steps { cache := init } (.inl rfl) with h0 | ⟨e', he', hc'⟩
  · exact .inl (hc ▸ h0)
  · rw [hc] at hc'; cases hc'; exact .inr he'

-- non-vacuity: a schedule where call 1 replaces the entry between call 0's enrich and finish; call 0's 304 is refused
example :
    let m : Mode := { etagEnabled := true, strict := false }
    let b0 : Body := { id := "b0", cls := .valid }
    let b1 : Body := { id := "b1", cls := .valid }
    let s := run m { cache := some { etag := "e0", body := b0 } }
      [.enrich 0, .enrich 1, .finish 1 { status := 200, etag := "e1", body := b1, retryAfter := .absent },
       .finish 0 { status := 304, etag := "", body := { id := "", cls := .invalid }, retryAfter := .absent }]
    s.results.lookup 0 = some .cacheMiss ∧ s.results.lookup 1 = some (.ok b1) := by decide +kernel

end Mc.C19
