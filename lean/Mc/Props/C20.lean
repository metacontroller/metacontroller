import Mc.Meta
import Mc.Proofs.JsonLemmas
/-
  C20 - hosted controllers follow their CompositeController / DecoratorController objects. Theorems about the
  reconcile state machine of `Mc/Meta.lean` (tied to the real `Reconcile` of both meta-controllers by the
  "meta" correspondence run), for every history of events.
-/
namespace Mc.C20
open Mc.Meta

theorem lookup_upd (subs : List (String × Nat)) (k k' : String) (v : Nat) :
    (subs.map (fun e => if e.1 == k then (k, v) else e)).lookup k' =
      if k' = k then (subs.lookup k).map (fun _ => v) else subs.lookup k' := by
  induction subs with
  | nil => simp
  | cons e rest ih =>
    obtain ⟨a, b⟩ := e
    simp only [List.map_cons, beq_iff_eq] at ih ⊢
    by_cases hak : a = k
    · subst hak
      by_cases hk : k' = a
      · subst hk; simp
      · simp [slookup_cons, hk, ih]
    · by_cases hk : k' = k
      · subst hk
        have : ¬ k' = a := fun h => hak h.symm
        simp [slookup_cons, hak, this, ih]
      · simp [slookup_cons, hak, hk, ih]

theorem keys_upd (subs : List (String × Nat)) (k : String) (v : Nat) :
    (subs.map (fun e => if e.1 == k then (k, v) else e)).map (·.1) = subs.map (·.1) := by
  rw [List.map_map]
  apply List.map_congr_left
  intro e _
  by_cases h : e.1 = k
  · simp [h]
  · simp [h]

theorem lookup_incr (subs : List (String × Nat)) (k k' : String) :
    ((incr subs k).lookup k').getD 0 = (subs.lookup k').getD 0 + (if k' = k then 1 else 0) := by
  unfold incr
  cases hl : subs.lookup k with
  | some n =>
    simp only [lookup_upd, hl]
    by_cases hk : k' = k
    · subst hk; simp [hl]
    · simp [hk]
  | none =>
    simp only [List.lookup_append, slookup_cons, List.lookup_nil]
    by_cases hk : k' = k
    · subst hk; simp [hl]
    · simp [hk]

theorem lookup_decr (subs : List (String × Nat)) (k k' : String) :
    ((decr subs k).lookup k').getD 0 = (subs.lookup k').getD 0 - (if k' = k then 1 else 0) := by
  unfold decr
  cases hl : subs.lookup k with
  | some n =>
    simp only
    by_cases hn : n ≤ 1
    · rw [if_pos hn, slookup_filter_ne]
      by_cases hk : k' = k
      · subst hk; simp [hl]; omega
      · simp [hk]
    · rw [if_neg hn, lookup_upd]
      by_cases hk : k' = k
      · subst hk; simp [hl]
      · simp [hk]
  | none =>
    by_cases hk : k' = k
    · subst hk; simp [hl]
    · simp [hk]

def WF (subs : List (String × Nat)) : Prop := (subs.map (·.1)).Nodup ∧ ∀ e ∈ subs, 0 < e.2

theorem wf_upd (subs : List (String × Nat)) (k : String) (v : Nat) (hv : 0 < v) (h : WF subs) :
    WF (subs.map (fun e => if e.1 == k then (k, v) else e)) := by
  refine ⟨by rw [keys_upd]; exact h.1, fun e he => ?_⟩
  obtain ⟨e0, he0, rfl⟩ := List.mem_map.mp he
  by_cases hk : e0.1 = k
  · simpa [hk] using hv
  · simpa [hk] using h.2 e0 he0

theorem wf_incr (subs : List (String × Nat)) (k : String) (h : WF subs) : WF (incr subs k) := by
  unfold incr
  cases hl : subs.lookup k with
  | some n => exact wf_upd subs k (n + 1) (Nat.succ_pos n) h
  | none =>
    refine ⟨nodup_keys_concat subs k 1 h.1 hl, fun e he => ?_⟩
    rcases List.mem_append.mp he with he | he
    · exact h.2 e he
    · rw [List.mem_singleton.1 he]
      exact Nat.one_pos

theorem wf_decr (subs : List (String × Nat)) (k : String) (h : WF subs) : WF (decr subs k) := by
  unfold decr
  cases hl : subs.lookup k with
  | none => exact h
  | some n =>
    simp only
    by_cases hn : n ≤ 1
    · rw [if_pos hn]
      exact ⟨List.Nodup.sublist (List.Sublist.map _ List.filter_sublist) h.1, fun e he => h.2 e (List.mem_filter.mp he).1⟩
    · rw [if_neg hn]
      exact wf_upd subs k (n - 1) (by omega) h

theorem count_cons_if (k a : String) (l : List String) :
    (a :: l).count k = l.count k + (if k = a then 1 else 0) := by
  rw [List.count_cons]
  by_cases h : k = a
  · subst h; simp
  · have : ¬ a = k := fun h' => h h'.symm
    simp [h, this]

theorem lookup_openAll (ks : List String) (subs : List (String × Nat)) (k' : String) :
    ((openAll subs ks).lookup k').getD 0 = (subs.lookup k').getD 0 + ks.count k' := by
  induction ks generalizing subs with
  | nil => simp [openAll]
  | cons a l ih =>
    have := ih (incr subs a)
    unfold openAll at this ⊢
    rw [List.foldl_cons, this, lookup_incr, count_cons_if]
    omega

theorem lookup_closeAll (ks : List String) (subs : List (String × Nat)) (k' : String) :
    ((closeAll subs ks).lookup k').getD 0 = (subs.lookup k').getD 0 - ks.count k' := by
  induction ks generalizing subs with
  | nil => simp [closeAll]
  | cons a l ih =>
    have := ih (decr subs a)
    unfold closeAll at this ⊢
    rw [List.foldl_cons, this, lookup_decr, count_cons_if]
    omega

theorem wf_openAll (ks : List String) (subs : List (String × Nat)) (h : WF subs) : WF (openAll subs ks) := by
  induction ks generalizing subs with
  | nil => exact h
  | cons a l ih => exact ih (incr subs a) (wf_incr subs a h)

theorem wf_closeAll (ks : List String) (subs : List (String × Nat)) (h : WF subs) : WF (closeAll subs ks) := by
  induction ks generalizing subs with
  | nil => exact h
  | cons a l ih => exact ih (decr subs a) (wf_decr subs a h)

theorem sum_split (f : Spec → Nat) (running : List (String × Spec)) (name : String) (sp : Spec)
    (hu : (running.map (·.1)).Nodup) (hl : running.lookup name = some sp) :
    (running.map (fun e => f e.2)).sum =
      f sp + ((running.filter (·.1 != name)).map (fun e => f e.2)).sum := by
  induction running with
  | nil => simp at hl
  | cons e rest ih =>
    obtain ⟨a, b⟩ := e
    rw [List.map_cons, List.nodup_cons] at hu
    rw [slookup_cons] at hl
    by_cases h : name = a
    · subst h
      rw [if_pos rfl] at hl
      have hb : b = sp := by simpa using hl
      subst hb
      have hrest : rest.filter (·.1 != name) = rest := by
        rw [List.filter_eq_self]
        intro p hp
        have : p.1 ≠ name := fun h' => hu.1 (h' ▸ List.mem_map.mpr ⟨p, hp, rfl⟩)
        simpa using this
      simp [hrest]
    · rw [if_neg h] at hl
      have ha : ¬ a = name := fun h' => h h'.symm
      simp [ha, ih hu.2 hl]
      omega

/-- bookkeeping invariant: one instance per name; the factory's subscription table has unique keys, no zero entries,
    and every count equals the number of running instances holding that informer open -/
def Inv (s : State) : Prop :=
  (s.running.map (·.1)).Nodup ∧
  (s.subs.map (·.1)).Nodup ∧
  (∀ e ∈ s.subs, 0 < e.2) ∧
  (∀ k, (s.subs.lookup k).getD 0 = ((s.running.map (fun e => e.2.resources.count k)).sum))

theorem inv_init : Inv {} := by
  refine ⟨?_, ?_, ?_, ?_⟩ <;> simp

/-- net-zero holds for ANY table, even one with duplicate keys or zero entries: `lookup` only sees the first entry
    of a key, `incr`/`decr` rewrite all entries of the key alike, and truncated subtraction undoes the addition -/
theorem failed_construction_net_zero_any (subs : List (String × Nat)) (ks : List String) (k : String) :
    ((closeAll (openAll subs ks) ks).lookup k).getD 0 = (subs.lookup k).getD 0 := by
  rw [lookup_closeAll, lookup_openAll]
  omega

-- `hu`, `hp` are kept in the statement; the proof does not need them (see `failed_construction_net_zero_any`)
set_option linter.unusedVariables false in
/-- opening and then closing the same informers (a constructor that fails and is unwound by its deferred cleanup)
    leaves the subscription counts as they were -/
theorem C20_failed_construction_net_zero (subs : List (String × Nat)) (ks : List String)
    (hu : (subs.map (·.1)).Nodup) (hp : ∀ e ∈ subs, 0 < e.2) (k : String) :
    ((closeAll (openAll subs ks) ks).lookup k).getD 0 = (subs.lookup k).getD 0 :=
  failed_construction_net_zero_any subs ks k

theorem stop_lookup (s : State) (name : String) : (s.stop name).running.lookup name = none := by
  unfold State.stop
  cases hl : s.running.lookup name with
  | some sp => simp [slookup_filter_ne]
  | none => exact hl

theorem stop_lookup_other (s : State) (name other : String) (hne : other ≠ name) :
    (s.stop name).running.lookup other = s.running.lookup other := by
  unfold State.stop
  cases hl : s.running.lookup name with
  | some sp => simp [slookup_filter_ne, hne]
  | none => rfl

theorem inv_stop (s : State) (name : String) (h : Inv s) : Inv (s.stop name) := by
  obtain ⟨hr, hu, hp, hc⟩ := h
  unfold State.stop
  cases hl : s.running.lookup name with
  | none => exact ⟨hr, hu, hp, hc⟩
  | some sp =>
    have hwf := wf_closeAll sp.resources s.subs ⟨hu, hp⟩
    refine ⟨?_, hwf.1, hwf.2, ?_⟩
    · exact List.Nodup.sublist (List.Sublist.map _ List.filter_sublist) hr
    · intro k
      simp only
      rw [lookup_closeAll, hc k, sum_split (fun sp => sp.resources.count k) s.running name sp hr hl]
      omega

theorem inv_start (s : State) (name : String) (sp : Spec) (h : Inv s) (hn : s.running.lookup name = none) :
    Inv { running := s.running ++ [(name, sp)], subs := openAll s.subs sp.resources } := by
  obtain ⟨hr, hu, hp, hc⟩ := h
  have hwf := wf_openAll sp.resources s.subs ⟨hu, hp⟩
  refine ⟨?_, hwf.1, hwf.2, ?_⟩
  · exact nodup_keys_concat s.running name sp hr hn
  · intro k
    simp only [List.map_append, List.map_cons, List.map_nil, List.sum_append, List.sum_cons, List.sum_nil]
    rw [lookup_openAll, hc k]
    omega

theorem inv_failed (s : State) (opened : List String) (h : Inv s) :
    Inv { s with subs := closeAll (openAll s.subs opened) opened } := by
  obtain ⟨hr, hu, hp, hc⟩ := h
  have hwf := wf_closeAll opened _ (wf_openAll opened s.subs ⟨hu, hp⟩)
  refine ⟨hr, hwf.1, hwf.2, ?_⟩
  intro k
  simp only
  rw [C20_failed_construction_net_zero s.subs opened hu hp k]
  exact hc k

theorem inv_reconcile (s : State) (name : String) (obs : Option Spec) (h : Inv s) : Inv (reconcile s name obs).1 := by
  unfold reconcile
  cases obs with
  | none => exact inv_stop s name h
  | some sp =>
    simp only
    split
    · exact h
    · have h1 := inv_stop s name h
      cases hc : sp.cls with
      | early err => exact h1
      | failing opened => exact inv_failed _ opened h1
      | ok => exact inv_start _ name sp h1 (stop_lookup s name)

theorem inv_run (events : List (String × Option Spec)) (s : State) (h : Inv s) : Inv (run s events).1 := by
  induction events generalizing s with
  | nil => exact h
  | cons e rest ih =>
    obtain ⟨n, o⟩ := e
    simp only [run]
    exact ih _ (inv_reconcile s n o h)

/-- no leak: after every history the subscriptions are exactly those of the running instances -/
theorem C20_no_leak (events : List (String × Option Spec)) : Inv (run {} events).1 :=
  inv_run events {} inv_init

/-- when nothing runs, nothing is subscribed -/
theorem C20_all_stopped_no_subs (s : State) (h : Inv s) (hr : s.running = []) : s.subs = [] := by
  obtain ⟨_, _, hp, hc⟩ := h
  cases hs : s.subs with
  | nil => rfl
  | cons e rest =>
    exfalso
    obtain ⟨k, n⟩ := e
    have h1 := hc k
    have h2 := hp (k, n) (by rw [hs]; exact List.mem_cons_self)
    rw [hs, hr, slookup_cons] at h1
    simp at h1 h2
    omega

/-- an update that leaves the spec unchanged does nothing -/
theorem C20_noop_update (s : State) (name : String) (sp : Spec)
    (h : (s.running.lookup name).map (·.ver) = some sp.ver) :
    reconcile s name (some sp) = (s, {}) := by
  unfold reconcile
  simp [h]

/-- deleting the controller object stops its instance -/
theorem C20_delete_stops (s : State) (name : String) :
    (reconcile s name none).1.running.lookup name = none := by
  exact stop_lookup s name

-- `h : Inv s` is kept in the statement; the proof does not need it: `stop` filters out every entry of `name`
set_option linter.unusedVariables false in
/-- the running instance follows the object: after an event for `name` with a new spec, `name` runs exactly that
    spec when it is constructible, and nothing otherwise (in particular never the previous spec) -/
theorem C20_follows_spec (s : State) (name : String) (sp : Spec) (h : Inv s)
    (hne : (s.running.lookup name).map (·.ver) ≠ some sp.ver) :
    (reconcile s name (some sp)).1.running.lookup name = (if sp.cls = .ok then some sp else none) := by
  unfold reconcile
  have hs : ((s.running.lookup name).map (·.ver) == some sp.ver) = false := beq_eq_false_iff_ne.2 hne
  simp only [hs]
  have h0 := stop_lookup s name
  cases hc : sp.cls with
  | early err => rw [if_neg nofun]; exact h0
  | failing opened => rw [if_neg nofun]; exact h0
  | ok => simp [List.lookup_append, h0]

/-- other controllers are not affected -/
theorem C20_others_untouched (s : State) (name other : String) (obs : Option Spec) (hne : other ≠ name) :
    (reconcile s name obs).1.running.lookup other = s.running.lookup other := by
  have h0 := stop_lookup_other s name other hne
  unfold reconcile
  cases obs with
  | none => exact h0
  | some sp =>
    simp only
    split
    · rfl
    · cases hc : sp.cls with
      | early err => exact h0
      | failing opened => exact h0
      | ok => simp [List.lookup_append, h0, slookup_cons, hne]

/-- a restart stops the old instance: `stopped` is reported when an instance was running and the spec differs -/
theorem C20_restart_stops_old (s : State) (name : String) (sp old : Spec) (ho : s.running.lookup name = some old)
    (hne : old.ver ≠ sp.ver) : (reconcile s name (some sp)).2.stopped = true := by
  unfold reconcile
  have hs : ((s.running.lookup name).map (·.ver) == some sp.ver) = false := by
    simp [ho, hne]
  simp only [hs]
  cases hc : sp.cls <;> simp [ho]

/-! A concrete history, evaluated. -/
section Example

private def things := "things.v1.example.com"
private def widgets := "widgets.v1.example.com"
private def configmaps := "configmaps.v1"

private def hist : List (String × Option Spec) :=
  [ ("a", some ⟨1, .ok, [things, widgets]⟩),
    ("b", some ⟨1, .ok, [things, widgets, configmaps]⟩),
    ("a", some ⟨2, .failing [things, widgets], [things, widgets]⟩),
    ("a", some ⟨3, .early true, [things, widgets]⟩),
    ("b", none) ]

/-- what is observable of a state: (name, version) of the running instances, and the subscription table -/
private def view (s : State) : List (String × Nat) × List (String × Nat) :=
  (s.running.map (fun e => (e.1, e.2.ver)), s.subs)

private def after (n : Nat) : State := (run {} (hist.take n)).1

example : view (after 1) = ([("a", 1)], [(things, 1), (widgets, 1)]) := by decide +kernel
example : view (after 2) = ([("a", 1), ("b", 1)], [(things, 2), (widgets, 2), (configmaps, 1)]) := by decide +kernel
-- v2 of "a" fails in its constructor: the old "a" is gone, what the constructor opened is closed again
example : view (after 3) = ([("b", 1)], [(things, 1), (widgets, 1), (configmaps, 1)]) := by decide +kernel
-- v3 of "a" returns before the constructor: nothing changes
example : view (after 4) = ([("b", 1)], [(things, 1), (widgets, 1), (configmaps, 1)]) := by decide +kernel
example : view (after 5) = ([], []) := by decide +kernel
-- the `Out` records along the history: (error, started, stopped)
example : (run {} hist).2.map (fun o => (o.error, o.started, o.stopped)) =
    [(false, true, false), (false, true, false), (true, false, true), (true, false, false), (false, false, true)] := by
  decide +kernel
-- a repeated event is a no-op; duplicate resource keys are counted twice and released twice
example : (reconcile (after 2) "b" (some ⟨1, .ok, []⟩)).1.subs = (after 2).subs := by decide +kernel
example : view (run {} [("d", some ⟨1, .ok, [things, things]⟩)]).1 = ([("d", 1)], [(things, 2)]) := by decide +kernel
example : view (run {} [("d", some ⟨1, .ok, [things, things]⟩), ("d", none)]).1 = ([], []) := by decide +kernel

end Example

end Mc.C20
