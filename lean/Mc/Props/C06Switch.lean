import Mc.Props.C06
/-
  C06, regenerated tie: the strategy switch of `updateChildren` is re-read from the Go source on every run
  (tools/extract: per case clause the method names, the client verbs called in it, the apierrors predicates tested in
  it) and must be the table the model's `updateAct` / `childStep` implement.  A case moved to another branch, a new
  verb in a branch, a newly swallowed (or no longer swallowed) error kind changes `Generated.updateMethodSwitch` and
  breaks `C06_switch_extracted`.
-/
namespace Mc
namespace C06

/-- the switch as the model has it (per group of method names: verb sent for a differing child, error kinds swallowed) -/
def modelSwitch : List (List String × List String × List String) :=
  [(["OnDelete", ""], [], []),
   (["Recreate", "RollingRecreate"], ["Delete"], ["IsNotFound"]),
   (["InPlace", "RollingInPlace"], ["Update"], ["IsNotFound", "IsConflict"]),
   (["<default>"], [], [])]

/-- **the extracted switch is the model's** -/
theorem C06_switch_extracted : Generated.updateMethodSwitch = modelSwitch := rfl

/-- what the table means in the model: for a child that differs (and is not pending deletion) the groups of `modelSwitch`
    decide nothing / delete guarded by the observed UID / update with the merged object; any other method is an error -/
theorem C06_modelSwitch_sound (mks sys : List String) (obs des new : J)
    (h : applyUpdate mks sys obs des = .ok new) (hd : new.eqv obs = false) (hn : isDeleting obs = false) :
    (∀ m ∈ ["OnDelete", ""], updateAct mks sys m obs des = .none) ∧
    (∀ m ∈ ["Recreate", "RollingRecreate"], updateAct mks sys m obs des = .delete (getUID obs)) ∧
    (∀ m ∈ ["InPlace", "RollingInPlace"], updateAct mks sys m obs des = .update new) ∧
    (∀ m, m ∉ ["OnDelete", "", "Recreate", "RollingRecreate", "InPlace", "RollingInPlace"] →
      ∃ e, updateAct mks sys m obs des = .error e) := by
  refine ⟨?_, ?_, ?_, ?_⟩
  · intro m hm
    simp at hm
    rcases hm with rfl | rfl <;> simp [updateAct, h, hd, hn]
  · intro m hm
    simp at hm
    rcases hm with rfl | rfl <;> simp [updateAct, h, hd, hn]
  · intro m hm
    simp at hm
    rcases hm with rfl | rfl <;> simp [updateAct, h, hd, hn]
  · intro m hm
    simp at hm
    obtain ⟨h1, h2, h3, h4, h5, h6⟩ := hm
    refine ⟨s!"invalid update strategy: unknown method {m}", ?_⟩
    simp only [updateAct, h, hd, hn, Bool.false_eq_true, if_false]

end C06
end Mc
