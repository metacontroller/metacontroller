import Mc.Sync.Decorator
import Mc.Proofs.ObjMapLemmas
import Mc.Proofs.ProgLemmas
/-
  C03 - the hook sees exactly the children the parent owns, in the documented shape:
  outer key `Kind.version` / `Kind.group/version`, inner key `name` or `namespace/name`,
  every declared group present even when empty, namespace filter of `Convert`, namespace defaulting.
-/
namespace Mc.C03

theorem C03_key_format_core (k : GVK) (h : k.group = "") : k.text = k.kind ++ "." ++ k.version := by
  simp [GVK.text, h]

theorem C03_key_format_group (k : GVK) (h : k.group ≠ "") :
    k.text = k.kind ++ "." ++ k.group ++ "/" ++ k.version := by
  simp [GVK.text, h]

example : (GVK.mk "" "v1" "Pod").text = "Pod.v1" ∧ (GVK.mk "apps" "v1" "Deployment").text = "Deployment.apps/v1" := by
  decide +kernel

theorem text_toList (k : GVK) :
    k.text.toList = k.kind.toList ++ '.' ::
      (if k.group = "" then k.version.toList else k.group.toList ++ '/' :: k.version.toList) := by
  unfold GVK.text
  by_cases e : k.group = "" <;> simp [e, String.toList_append]

/-- the outer key determines the group-version-kind (kinds contain no '.', versions no '/') -/
theorem C03_key_injective (a b : GVK) (ha : '.' ∉ a.kind.toList) (hb : '.' ∉ b.kind.toList)
    (hva : '/' ∉ a.version.toList) (hvb : '/' ∉ b.version.toList) (h : a.text = b.text) : a = b := by
  have h' := congrArg String.toList h
  rw [text_toList, text_toList] at h'
  obtain ⟨e1, e2⟩ := split_first '.' _ _ _ _ ha hb h'
  obtain ⟨ag, av, ak⟩ := a
  obtain ⟨bg, bv, bk⟩ := b
  simp only at hva hvb e1 e2
  rw [String.toList_inj] at e1
  by_cases ea : ag = "" <;> by_cases eb : bg = "" <;> simp only [ea, eb, if_true, if_false] at e2
  · rw [String.toList_inj] at e2
    simp [ea, eb, e1, e2]
  · exact absurd (by rw [e2]; simp) hva
  · exact absurd (by rw [← e2]; simp) hvb
  · obtain ⟨e3, e4⟩ := split_last '/' _ _ _ _ hva hvb e2
    rw [String.toList_inj] at e3 e4
    simp [e1, e3, e4]

example : '.' ∉ "Deployment".toList ∧ '/' ∉ "v1".toList := by decide +kernel
/-- why the side conditions: a kind with a dot collides -/
example : (GVK.mk "" "c" "a.b").text = (GVK.mk "" "b.c" "a").text := by decide +kernel

theorem C03_inner_key_qualified (parentNs : String) (o : J) (h : parentNs = "" ∧ getNamespace o ≠ "") :
    relativeName parentNs o = getNamespace o ++ "/" ++ getName o := by
  simp [relativeName, h.1, h.2]

theorem C03_inner_key_plain (parentNs : String) (o : J) (h : ¬ (parentNs = "" ∧ getNamespace o ≠ "")) :
    relativeName parentNs o = getName o := by
  unfold relativeName
  by_cases h1 : parentNs = "" <;> by_cases h2 : getNamespace o = "" <;> simp_all

theorem C03_inner_key_iff (parentNs : String) (o : J) (hname : getNamespace o ++ "/" ++ getName o ≠ getName o) :
    relativeName parentNs o = getNamespace o ++ "/" ++ getName o ↔ parentNs = "" ∧ getNamespace o ≠ "" := by
  constructor
  · intro h
    apply Classical.byContradiction
    intro hn
    rw [C03_inner_key_plain _ _ hn] at h
    exact hname h.symm
  · exact C03_inner_key_qualified _ _


/-- a group of the uniform map survives `Convert` -/
theorem C03_groups_total (m : ObjMap) (ns : String) (k : GVK) (h : m.any (·.1 == k) = true) :
    (m.convert ns).any (·.1 == k) = true := hasGroup_convert m ns k h

/-- … and its key is in the JSON object sent to the hook (possibly with an empty object as value) -/
theorem C03_groups_total_json (m : ObjMap) (ns : String) (k : GVK) (h : m.any (·.1 == k) = true) :
    ((m.convert ns).toJ.get? k.text).isSome = true :=
  get?_toJ_text (hasGroup_convert m ns k h)

def chGVK (ch : ChildRes) : GVK :=
  { group := (parseAPIVersion ch.apiVersion).1, version := (parseAPIVersion ch.apiVersion).2, kind := ch.kind }

/-- `getChildren` initialises one group per declared attachment resource, whatever the cache holds
    (`getAttachments` unfolds to a fold of `ObjMap.addGroup (chGVK ch) _` over the attachment rules) -/
theorem C03_attachment_groups_total (c : DCfg) (cache : Cache) (parent : J) :
    ∀ ch ∈ c.attachments, (getAttachments c cache parent).any (·.1 == chGVK ch) = true := fun ch hch =>
  hasGroup_foldl_addGroup chGVK _ _ _ _ (.inr ⟨ch, hch, rfl⟩)

/-- `claimChildren`: one step of the fold -/
def claimStep (c : Cfg) (cache : Cache) (parent : J) (selector : Selector) (m : ObjMap) (ch : ChildRes) : PE ObjMap := do
  let all := cache.childrenOf ch.resource (if c.parentNamespaced then some (getNamespace parent) else none)
  let m := m.initGroup (chGVK ch)
  let cx : ClaimCtx := { parentT := c.parentTarget parent, parent, parentRef := controllerRefTo c.parentAPIVersion c.parentKind parent, selector,
                         childT := fun o => targetOf ch.group ch.resource ch.namespaced (getNamespace o) (getName o) }
  let (claimed, errs) ← PE.lift (claimAll cx all none)
  if !errs.isEmpty then PE.fail s!"can't claim {ch.kind} children"
  else pure (claimed.foldl (fun acc o => acc.insertUniform o) m)

theorem claimChildren_eq (c : Cfg) (cache : Cache) (parent : J) :
    claimChildren c cache parent =
      PE.bind (PE.ofExcept (c.makeSelector parent)) (fun selector =>
        c.children.foldlM (claimStep c cache parent selector) []) := rfl

theorem claimAll_sub (cx : ClaimCtx) : ∀ (objs : List J) (st : AdoptState),
    Prog.AllRets (fun r => ∀ o ∈ r.1, o ∈ objs) (claimAll cx objs st) := by
  intro objs
  induction objs with
  | nil => intro st; exact .ret _ (fun o ho => by simp at ho)
  | cons x rest ih =>
    intro st
    unfold claimAll
    apply Prog.AllRets.bind (Prog.AllRets.trivial _)
    rintro ⟨⟨ok, err⟩, st'⟩ _
    apply Prog.AllRets.bind (ih st')
    rintro ⟨claimed, errs⟩ hcl
    refine .ret _ ?_
    intro o ho
    simp only [] at ho hcl
    cases ok
    · exact List.mem_cons_of_mem _ (hcl o ho)
    · rcases List.mem_cons.1 ho with rfl | ho
      · simp
      · exact List.mem_cons_of_mem _ (hcl o ho)

/-- one step of `claimChildren`, on every successful branch: the declared group is present (even when
    nothing is claimed), earlier groups are kept, and every object added comes from the informer list
    of that resource (restricted to the parent's namespace for a namespaced parent) -/
theorem C03_claim_step (c : Cfg) (cache : Cache) (parent : J) (selector : Selector) (m : ObjMap) (ch : ChildRes) :
    PE.AllOk (fun m' =>
        m'.any (·.1 == chGVK ch) = true ∧
        (∀ k, m.any (·.1 == k) = true → m'.any (·.1 == k) = true) ∧
        (∀ o ∈ m'.list, o ∈ m.list ∨
          o ∈ cache.childrenOf ch.resource (if c.parentNamespaced then some (getNamespace parent) else none)))
      (claimStep c cache parent selector m ch) := by
  unfold claimStep
  simp only [bind, pure]
  apply PE.AllOk.bind (PE.AllOk.lift (claimAll_sub _ _ _))
  rintro ⟨claimed, errs⟩ hcl
  simp only [] at hcl ⊢
  by_cases he : (!errs.isEmpty) = true
  · rw [if_pos he]; exact PE.AllOk.fail _
  · rw [if_neg he]
    apply PE.AllOk.pure
    refine ⟨?_, ?_, ?_⟩
    · exact hasGroup_addGroup m _ claimed _ (.inr rfl)
    · exact fun k hk => hasGroup_addGroup m _ claimed _ (.inl hk)
    · intro o ho
      exact (mem_list_addGroup ho).imp_right (hcl o)

/-- the whole of `claimChildren`: on every successful branch one group per declared child resource,
    and nothing but objects of the informer lists -/
theorem C03_claim_groups_total (c : Cfg) (cache : Cache) (parent : J) :
    PE.AllOk (fun m =>
        (∀ ch ∈ c.children, m.any (·.1 == chGVK ch) = true) ∧
        (∀ o ∈ m.list, ∃ ch ∈ c.children,
          o ∈ cache.childrenOf ch.resource (if c.parentNamespaced then some (getNamespace parent) else none)))
      (claimChildren c cache parent) := by
  rw [claimChildren_eq]
  apply PE.AllOk.bind (Q := fun _ => True) (PE.AllOk.ofExcept (fun _ _ => True.intro))
  intro selector _
  have := PE.AllOk.foldlM_prefix
    (Inv := fun (pre : List ChildRes) (m : ObjMap) =>
      (∀ ch ∈ pre, m.any (·.1 == chGVK ch) = true) ∧
      (∀ o ∈ m.list, ∃ ch ∈ pre,
        o ∈ cache.childrenOf ch.resource (if c.parentNamespaced then some (getNamespace parent) else none)))
    (claimStep c cache parent selector) ?_ c.children [] [] ⟨by simp, by simp [ObjMap.list]⟩
  · simpa using this
  · intro pre ch m ⟨h1, h2⟩
    apply Prog.AllRets.mono _ (C03_claim_step c cache parent selector m ch)
    intro r hr m' hm'
    obtain ⟨g1, g2, g3⟩ := hr m' hm'
    refine ⟨?_, ?_⟩
    · intro ch' hch'
      rcases List.mem_append.1 hch' with h | h
      · exact g2 _ (h1 ch' h)
      · simp only [List.mem_singleton] at h; subst h; exact g1
    · intro o ho
      rcases g3 o ho with h | h
      · obtain ⟨ch', hch', h⟩ := h2 o h
        exact ⟨ch', List.mem_append_left _ hch', h⟩
      · exact ⟨ch, by simp, h⟩

/-- a namespaced parent only ever sees objects of its own namespace -/
theorem C03_convert_namespace (m : ObjMap) (ns : String) (hns : ns ≠ "") :
    ∀ o ∈ (m.convert ns).list, getNamespace o = ns ∧ o ∈ m.list :=
  fun _ ho => ⟨(mem_list_convert ho).2.resolve_left hns, (mem_list_convert ho).1⟩

/-- whatever the parent, nothing is invented -/
theorem C03_convert_sound (m : ObjMap) (ns : String) : ∀ o ∈ (m.convert ns).list, o ∈ m.list :=
  fun _ ho => (mem_list_convert ho).1

/-- every object that passes the filter is sent, under its own group-version-kind and its relative
    name, provided no other object (that passes the filter) has the same group-version-kind and relative name -/
theorem C03_convert_complete (m : ObjMap) (ns : String) (o : J) (ho : o ∈ m.list)
    (hns : ns = "" ∨ getNamespace o = ns)
    (hinj : ∀ x ∈ m.list, (ns = "" ∨ getNamespace x = ns) → gvkOf x = gvkOf o →
      relativeName ns x = relativeName ns o → x = o) :
    (m.convert ns).at (gvkOf o) (relativeName ns o) = some o ∧ o ∈ (m.convert ns).list := by
  have hat : (m.convert ns).at (gvkOf o) (relativeName ns o) = some o := by
    rw [convert_eq]
    exact at_foldl_put gvkOf (relativeName ns) o _ _
      (fun x hx => hinj x (mem_convertObjs.1 hx).1 (mem_convertObjs.1 hx).2) (.inl (mem_convertObjs.2 ⟨ho, hns⟩))
  exact ⟨hat, mem_list_of_at hat⟩

/-- cluster-scoped parent: every object is sent, under `relativeName "" o` (= `namespace/name` or `name`) -/
theorem C03_convert_cluster (m : ObjMap) (o : J) (ho : o ∈ m.list)
    (hinj : ∀ x ∈ m.list, gvkOf x = gvkOf o → relativeName "" x = relativeName "" o → x = o) :
    (m.convert "").at (gvkOf o) (relativeName "" o) = some o :=
  (C03_convert_complete m "" o ho (Or.inl rfl) (fun x hx _ => hinj x hx)).1

namespace Ex
def pod (ns name : String) : J := .obj [("apiVersion", .str "v1"), ("kind", .str "Pod"), ("metadata", .obj [("name", .str name), ("namespace", .str ns)])]
def kPod : GVK := { group := "", version := "v1", kind := "Pod" }
def kSvc : GVK := { group := "", version := "v1", kind := "Service" }
/-- a uniform map with two pods in different namespaces and an empty Service group -/
def m0 : ObjMap := [(kPod, [("ns/a", pod "ns" "a"), ("other/b", pod "other" "b")]), (kSvc, [])]

/-- inner keys: `namespace/name` for a cluster-scoped parent, `name` for a namespaced one -/
example : relativeName "" (pod "ns" "a") = "ns/a" ∧ relativeName "ns" (pod "ns" "a") = "a" := by decide +kernel
example : ("" = "" ∧ getNamespace (pod "ns" "a") ≠ "") ∧ ¬ ("ns" = "" ∧ getNamespace (pod "ns" "a") ≠ "") := by decide +kernel

def att0 : ChildRes := { apiVersion := "v1", resource := "pods", kind := "Pod", namespaced := true, hasStatus := true, method := none }
def dc0 : DCfg := { name := "dec", resources := [], attachments := [att0], finalize := false, customize := false }
def cfg0 : Cfg := { name := "cc", parentGroup := "ex.io", parentVersion := "v1", parentKind := "Thing", parentResource := "things",
                    parentNamespaced := true, parentHasStatus := true, children := [att0], generateSelector := true,
                    parentSelector := none, finalize := false, customize := false, ssa := false, fieldPaths := [] }
def emptyCache : Cache := { parents := [], children := [], related := [], revisions := [] }
def parent0 : J := .obj [("metadata", .obj [("name", .str "p"), ("namespace", .str "ns"), ("uid", .str "u")])]

/-- nothing observed: the declared group is there all the same -/
example : (getAttachments dc0 emptyCache parent0).any (·.1 == chGVK att0) = true :=
  C03_attachment_groups_total dc0 emptyCache parent0 att0 (by simp [dc0])
/-- a successful branch of `claimChildren` exists (so `C03_claim_groups_total` is not vacuous): with an
    empty informer the result is the one declared group, empty -/
example : claimChildren cfg0 emptyCache parent0 = PE.pure [(chGVK att0, [])] := by rfl

example : m0.any (·.1 == kSvc) = true := by decide +kernel
/-- the empty group reaches the hook -/
example : ((m0.convert "ns").toJ.get? "Service.v1").isSome = true := C03_groups_total_json m0 "ns" kSvc (by decide)
example : pod "ns" "a" ∈ m0.list ∧ pod "other" "b" ∈ m0.list := by simp [m0, ObjMap.list]
/-- the pod of the other namespace is not sent to a parent in `ns` -/
example : pod "other" "b" ∉ (m0.convert "ns").list := fun h =>
  absurd (C03_convert_namespace m0 "ns" (by decide +kernel) _ h).1 (by decide +kernel)
/-- a cluster-scoped parent sees both, under `namespace/name` -/
example : relativeName "" (pod "other" "b") = "other/b" ∧
    (m0.convert "").at (gvkOf (pod "other" "b")) "other/b" = some (pod "other" "b") := by
  refine ⟨by decide, ?_⟩
  have := C03_convert_cluster m0 (pod "other" "b") (by simp [m0, ObjMap.list]) (by
    intro x hx _ hn
    simp only [m0, ObjMap.list, List.flatMap_cons, List.map_cons, List.map_nil, List.flatMap_nil, List.append_nil,
      List.mem_cons, List.not_mem_nil, or_false] at hx
    rcases hx with rfl | rfl
    · exact absurd hn (by decide)
    · rfl)
  exact this
end Ex

theorem getNamespace_obj_md (kvs md : KVs) (h : lookup "metadata" kvs = some (.obj md)) :
    getNamespace (.obj kvs) = match lookup "namespace" md with | some (.str s) => s | _ => "" := by
  simp only [getNamespace, strAt, nestedField, h]
  cases hl : lookup "namespace" md with
  | none => rfl
  | some v => cases v <;> simp

theorem getNamespace_obj_none (kvs : KVs) (h : lookup "metadata" kvs = none) : getNamespace (.obj kvs) = "" := by
  simp [getNamespace, strAt, nestedField, h]

/-- a child returned without namespace is placed in the parent's namespace -/
theorem C03_namespace_default (ns : String) (o : J)
    (hmd : o.get? "metadata" = none ∨ ∃ md, o.get? "metadata" = some (.obj md)) :
    getNamespace (setNamespaceIfEmpty ns o) = (if getNamespace o = "" then ns else getNamespace o) := by
  unfold setNamespaceIfEmpty
  by_cases he : getNamespace o = ""
  · simp only [he, beq_self_eq_true, if_true]
    unfold J.get? at hmd
    by_cases hns : ns = ""
    · subst hns
      simp only [beq_self_eq_true, if_true]
      unfold removeNestedField
      rcases hmd with hmd | ⟨md, hmd⟩
      · simp only [removeNestedFieldKVs, hmd]
        exact getNamespace_obj_none _ hmd
      · simp only [removeNestedFieldKVs, hmd]
        rw [getNamespace_obj_md _ _ (lookup_setKey_same _ _ _)]
        rw [lookup_eraseKey, if_pos rfl]
    · have hb : (ns == "") = false := by simpa using hns
      simp only [hb, Bool.false_eq_true, if_false]
      unfold setNestedField
      rcases hmd with hmd | ⟨md, hmd⟩
      · simp only [setNestedFieldKVs, hmd]
        rw [getNamespace_obj_md _ _ (lookup_setKey_same _ _ _)]
        simp [setKey]
      · simp only [setNestedFieldKVs, hmd]
        rw [getNamespace_obj_md _ _ (lookup_setKey_same _ _ _), lookup_setKey_same]
  · have hb : (getNamespace o == "") = false := by simpa using he
    simp [hb, he]

/-- the hypothesis is needed: when `metadata` is not a map the write fails and the error is dropped -/
example : getNamespace (setNamespaceIfEmpty "ns" (.obj [("metadata", .str "x")])) = "" := by rfl

example : getNamespace (setNamespaceIfEmpty "ns" (.obj [("kind", .str "Pod"), ("metadata", .obj [("name", .str "a")])])) = "ns" ∧
    getNamespace (setNamespaceIfEmpty "ns" (.obj [("metadata", .obj [("namespace", .str "other")])])) = "other" ∧
    getNamespace (setNamespaceIfEmpty "ns" (.obj [("kind", .str "Pod")])) = "ns" := ⟨by rfl, by rfl, by rfl⟩


end Mc.C03
