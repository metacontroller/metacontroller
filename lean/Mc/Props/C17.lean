import Mc.Generated
/-
  C17 (partial) - shared state is accessed under locks.
  (1) An abstract reader/writer lock: in every reachable lock state two different threads never hold it in
      conflicting modes, hence two accesses that obey the discipline "writes under the exclusive lock, reads under
      the read or the exclusive lock" and come from different threads are never enabled together when one of them
      is a write (no data race on the guarded location) - for every trace, any number of threads.
  (2) The accesses to the process-wide maps of metacontroller, re-extracted from the source on every run
      (`Generated.sharedMapAccesses`: lastUpdatedCache, the informer factory's refCount / sharedInformers, the
      handler map of the shared event handler, the customize manager's relatedInformers), all obey that discipline.
  Not modelled: the Go memory model itself, accesses made through aliases the extractor does not see, library code.
  The cache-read-only half of C17 is judged on every replayed sync (cache fingerprint before/after).
-/
namespace Mc.C17

inductive Mode where
  | r | w
  deriving DecidableEq, Repr

inductive Ev where
  | acq (t : Nat) (m : Mode)
  | rel (t : Nat)
  deriving Repr

/-- threads currently holding the lock, with the mode -/
abbrev LState := List (Nat × Mode)

def holds (s : LState) (t : Nat) : Option Mode := s.lookup t

/-- one lock operation; `none` = the operation blocks (is not enabled) in this state -/
def step (s : LState) : Ev → Option LState
  | .acq t .w => if s.isEmpty then some [(t, .w)] else none
  | .acq t .r => if s.all (fun h => h.2 == .r && h.1 != t) then some ((t, .r) :: s) else none
  | .rel t => some (s.filter (·.1 != t))

def run (s : LState) : List Ev → Option LState
  | [] => some s
  | e :: rest => match step s e with
      | some s' => run s' rest
      | none => none

/-- mutual exclusion: two different holders are both readers -/
def Excl (s : LState) : Prop := ∀ a ∈ s, ∀ b ∈ s, a.1 ≠ b.1 → a.2 = .r ∧ b.2 = .r

theorem excl_nil : Excl [] := by
  intro a ha; cases ha

theorem excl_step (s s' : LState) (e : Ev) (h : Excl s) (hs : step s e = some s') : Excl s' := by
  cases e with
  | acq t m =>
    cases m with
    | w =>
      simp only [step] at hs
      split at hs
      · cases hs
        intro a ha b hb hne
        simp only [List.mem_singleton] at ha hb
        subst ha; subst hb
        exact absurd rfl hne
      · cases hs
    | r =>
      simp only [step] at hs
      split at hs
      · rename_i hall
        cases hs
        have hr : ∀ x ∈ (t, Mode.r) :: s, x.2 = .r := by
          intro x hx
          rcases List.mem_cons.mp hx with rfl | hx
          · rfl
          · have := List.all_eq_true.mp hall x hx
            simp only [Bool.and_eq_true, beq_iff_eq] at this
            exact this.1
        exact fun a ha b hb _ => ⟨hr a ha, hr b hb⟩
      · cases hs
  | rel t =>
    simp only [step] at hs
    cases hs
    intro a ha b hb hne
    exact h a (List.mem_filter.mp ha).1 b (List.mem_filter.mp hb).1 hne

/-- the exclusion invariant holds in every state reachable by lock operations -/
theorem excl_run : ∀ (tr : List Ev) (s s' : LState), Excl s → run s tr = some s' → Excl s'
  | [], s, s', h, hr => by simp only [run] at hr; cases hr; exact h
  | e :: rest, s, s', h, hr => by
    simp only [run] at hr
    split at hr
    · rename_i s1 hs
      exact excl_run rest s1 s' (excl_step s s1 e h hs) hr
    · cases hr

/-- an access by thread `t` obeys the discipline in state `s`: writes need the exclusive lock, reads any mode -/
def Permitted (s : LState) (t : Nat) (write : Bool) : Prop :=
  ∃ m, (t, m) ∈ s ∧ (write = true → m = .w)

/-- **C17 lockset**: after any sequence of lock operations, two accesses by different threads that both obey the
    discipline are never enabled together unless both are reads -/
theorem C17_lockset (tr : List Ev) (s : LState) (hr : run [] tr = some s) (t1 t2 : Nat) (w1 w2 : Bool)
    (hne : t1 ≠ t2) (h1 : Permitted s t1 w1) (h2 : Permitted s t2 w2) : w1 = false ∧ w2 = false := by
  have hex := excl_run tr [] s excl_nil hr
  obtain ⟨m1, hm1, hw1⟩ := h1
  obtain ⟨m2, hm2, hw2⟩ := h2
  obtain ⟨e1, e2⟩ : m1 = .r ∧ m2 = .r := hex (t1, m1) hm1 (t2, m2) hm2 hne
  exact ⟨Bool.eq_false_iff.2 fun h => Mode.noConfusion ((hw1 h).symm.trans e1),
    Bool.eq_false_iff.2 fun h => Mode.noConfusion ((hw2 h).symm.trans e2)⟩

/-- non-vacuity: two readers are enabled together, a reader and a writer never are -/
example : run [] [.acq 1 .r, .acq 2 .r] = some [(2, .r), (1, .r)] := by decide +kernel
example : run [] [.acq 1 .r, .acq 2 .w] = none := by decide +kernel
example : run [] [.acq 1 .w, .rel 1, .acq 2 .w] = some [(2, .w)] := by decide +kernel

/-- the discipline, on the extracted access table: a write holds the exclusive lock (2), a read holds some lock (≥ 1) -/
def disciplined (a : String × String × Bool × Nat) : Bool :=
  if a.2.2.1 then a.2.2.2 == 2 else a.2.2.2 ≥ 1

/-- **C17 accesses locked**: every access to a process-wide map found in the working tree obeys the discipline -/
theorem C17_accesses_locked : Generated.sharedMapAccesses.all disciplined = true := by decide +kernel

/-- the table is not empty and covers every watched map (a renamed map or lock would silently empty it) -/
theorem C17_table_covers :
    (Generated.sharedMapAccesses.filter (·.2.2.1)).length ≥ 5 ∧ Generated.sharedMapAccesses.length ≥ 15 := by decide +kernel

end Mc.C17
