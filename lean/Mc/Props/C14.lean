import Mc.Spec.EventSpec
/-
  C14 - every change that can alter a parent's reconciliation enqueues that parent, and nothing else does:
  the handler models of `Mc/Events.lean` (transliterations of the Go handlers, tied to the code by the
  event correspondence run) enqueue exactly the parents named by the declarative specification
  `Mc/Spec/EventSpec.lean`.
  Cache hypothesis: within one informer cache a (namespace, name) pair identifies one object.
-/
namespace Mc.C14
open Mc.EvSpec

/-- informer caches are keyed by namespace/name -/
def UniqueKeys (parents : List J) : Prop :=
  parents.Pairwise (fun a b => ¬ (getNamespace a = getNamespace b ∧ getName a = getName b))

/-- decorator caches hold several resources: identity also includes apiVersion and kind -/
def UniqueKeysD (parents : List J) : Prop :=
  parents.Pairwise (fun a b => ¬ (getAPIVersion a = getAPIVersion b ∧ getKind a = getKind b ∧
    getNamespace a = getNamespace b ∧ getName a = getName b))

theorem unique_of_pairwise {α : Type} {K : α → α → Prop} {l : List α} (h : l.Pairwise fun a b => ¬ K a b) {f : α → Bool}
    (hK : ∀ a b, f a = true → f b = true → K a b) : ∀ a ∈ l, ∀ b ∈ l, f a = true → f b = true → a = b := by
  intro a ha b hb fa fb
  induction h with
  | nil => cases ha
  | @cons x xs hx _ ih =>
    rcases List.mem_cons.mp ha with rfl | ha'
    · rcases List.mem_cons.mp hb with rfl | hb'
      · rfl
      · exact absurd (hK _ _ fa fb) (hx _ hb')
    · rcases List.mem_cons.mp hb with rfl | hb'
      · exact absurd (hK _ _ fb fa) (hx _ ha')
      · exact ih ha' hb'

theorem find?_eq_some_iff_of_unique {α : Type} {l : List α} {f : α → Bool}
    (hu : ∀ a ∈ l, ∀ b ∈ l, f a = true → f b = true → a = b) (q : α) :
    l.find? f = some q ↔ q ∈ l ∧ f q = true := by
  constructor
  · intro h; exact ⟨List.mem_of_find?_eq_some h, List.find?_some h⟩
  · rintro ⟨hq, hf⟩
    cases h : l.find? f with
    | none => exact absurd hf (by simpa using List.find?_eq_none.1 h q hq)
    | some p => rw [hu p (List.mem_of_find?_eq_some h) q hq (List.find?_some h) hf]

/-- a handler that enqueues what a resolved parent yields: `o` is the resolution (`ho`), `f` the enqueue (`hf`) -/
theorem mem_resolved {parents : List J} {o : Option J} {f : J → List String} {A R : J → Prop} {key : J → String}
    {k : String} (ho : ∀ p, o = some p ↔ p ∈ parents ∧ A p ∧ R p) (hf : ∀ p, k ∈ f p ↔ A p ∧ key p = k) :
    k ∈ (match o with | none => [] | some p => f p) ↔ ∃ p ∈ parents, (A p ∧ R p) ∧ key p = k := by
  cases o with
  | none =>
    constructor
    · intro h; cases h
    · rintro ⟨p, hp, har, _⟩; exact absurd ((ho p).2 ⟨hp, har⟩) nofun
  | some q =>
    obtain ⟨hq, ha, hr⟩ := (ho q).1 rfl
    constructor
    · intro h; exact ⟨q, hq, ⟨ha, hr⟩, ((hf q).1 h).2⟩
    · rintro ⟨p, hp, har, hk⟩
      cases (ho p).2 ⟨hp, har⟩
      exact (hf q).2 ⟨ha, hk⟩

/-- the tail both `resolveControllerRef`s share: the cached object `pred` finds, if it has the UID of the reference
    and the controller does not ignore it -/
def pick (parents : List J) (pred ign : J → Bool) (uid : String) : Option J :=
  match parents.find? pred with
  | none => none
  | some p => if getUID p != uid then none else if ign p then none else some p

theorem pick_eq_some {parents : List J} {pred ign : J → Bool} {uid : String}
    (hu : ∀ a ∈ parents, ∀ b ∈ parents, pred a = true → pred b = true → a = b) (p : J) :
    pick parents pred ign uid = some p ↔ p ∈ parents ∧ pred p = true ∧ getUID p = uid ∧ ign p = false := by
  rw [← and_assoc, ← find?_eq_some_iff_of_unique hu]
  unfold pick
  cases parents.find? pred with
  | none => simp
  | some q =>
    dsimp only
    constructor
    · intro h
      by_cases h1 : (getUID q != uid) = true
      · rw [if_pos h1] at h
        cases h
      rw [if_neg h1] at h
      by_cases h2 : ign q = true
      · rw [if_pos h2] at h
        cases h
      rw [if_neg h2] at h
      cases h
      exact ⟨rfl, by simpa using h1, by simpa using h2⟩
    · rintro ⟨hq, h1, h2⟩
      cases hq
      rw [if_neg (by simp [h1]), if_neg (by simp [h2])]

theorem admitted_eq (c : Cfg) (p : J) : admitted c p = !c.ignored p := by
  unfold admitted Cfg.ignored
  cases c.doNotMatch p <;> cases hasFinalizer p c.finalizer.name <;> rfl

theorem mem_enqueue (c : Cfg) (p : J) (k : String) :
    k ∈ c.enqueue p ↔ admitted c p = true ∧ metaKey p = k := by
  rw [admitted_eq]; unfold Cfg.enqueue
  cases c.ignored p <;> simp [eq_comm]

theorem enqueue_length (c : Cfg) (p : J) : (c.enqueue p).length ≤ 1 := by
  unfold Cfg.enqueue; split <;> simp

theorem onParent_eq (c : Cfg) (ev : Event) :
    c.onParent ev =
      if ev.type == .update && c.ignoreStatusChanges && statusOnlyChange ev.old ev.obj then [] else c.enqueue ev.obj := by
  unfold Cfg.onParent
  cases ev.type <;> rfl

/-- parent add / update / delete (tombstone or not): the parent itself, iff admitted and not an ignored status-only update -/
theorem C14_parent (c : Cfg) (ev : Event) :
    c.onParent ev = if parentWoken c ev then [metaKey ev.obj] else [] := by
  rw [onParent_eq]
  unfold parentWoken Cfg.enqueue
  rw [admitted_eq]
  cases (ev.type == .update && c.ignoreStatusChanges && statusOnlyChange ev.old ev.obj) <;> cases c.ignored ev.obj <;> rfl

theorem resolveRef_eq (c : Cfg) (parents : List J) (ns : String) (ref : OwnerRef) :
    c.resolveRef parents ns ref =
      if apiGroup ref.apiVersion != c.parentGroup || ref.kind != c.parentKind then none
      else pick parents (fun p => getNamespace p == (if c.parentNamespaced then ns else "") && getName p == ref.name)
        c.ignored ref.uid := by
  unfold Cfg.resolveRef
  cases apiGroup ref.apiVersion != c.parentGroup <;> cases ref.kind != c.parentKind <;> rfl

theorem uniqueKeys_find {parents : List J} (hu : UniqueKeys parents) (ns name : String) :
    ∀ a ∈ parents, ∀ b ∈ parents, (getNamespace a == ns && getName a == name) = true →
      (getNamespace b == ns && getName b == name) = true → a = b := by
  refine unique_of_pairwise hu fun a b fa fb => ?_
  simp only [Bool.and_eq_true, beq_iff_eq] at fa fb
  exact ⟨fa.1.trans fb.1.symm, fa.2.trans fb.2.symm⟩

theorem resolveRef_iff (c : Cfg) (parents : List J) (hu : UniqueKeys parents) (ns : String) (ref : OwnerRef) (p : J) :
    c.resolveRef parents ns ref = some p ↔ p ∈ parents ∧ admitted c p = true ∧ refersTo c ns ref p = true := by
  rw [resolveRef_eq, admitted_eq]
  unfold refersTo
  by_cases h : (apiGroup ref.apiVersion != c.parentGroup || ref.kind != c.parentKind) = true
  · rw [if_pos h]
    simp only [Bool.and_eq_true, beq_iff_eq]
    constructor
    · intro h'; cases h'
    · intro hr; simp [hr.2.2.1.1.1.1, hr.2.2.1.1.1.2] at h
  · rw [if_neg h, pick_eq_some (uniqueKeys_find hu _ _)]
    have ⟨hg, hk⟩ : apiGroup ref.apiVersion = c.parentGroup ∧ ref.kind = c.parentKind := by simpa using h
    simp only [hg, hk, Bool.and_eq_true, beq_iff_eq, Bool.not_eq_true', beq_self_eq_true, true_and]
    constructor
    · rintro ⟨h0, ⟨h1, h2⟩, h3, h4⟩; exact ⟨h0, h4, ⟨h2.symm, h1⟩, h3⟩
    · rintro ⟨h0, h4, ⟨h2, h1⟩, h3⟩; exact ⟨h0, ⟨h1, h2.symm⟩, h3, h4⟩

theorem mem_onChildDelete (c : Cfg) (parents : List J) (hu : UniqueKeys parents) (child : J) (k : String) :
    k ∈ c.onChildDelete parents child ↔
      ∃ p ∈ parents, (admitted c p = true ∧
        (match controllerOf child with
         | some ref => refersTo c (getNamespace child) ref p
         | none => false) = true) ∧ metaKey p = k := by
  unfold Cfg.onChildDelete
  cases controllerOf child with
  | none => simp
  | some ref =>
    exact mem_resolved (resolveRef_iff c parents hu _ ref) (fun p => mem_enqueue c p k)

theorem mem_potentialParents (c : Cfg) (parents : List J) (child p : J) :
    p ∈ c.potentialParents parents child ↔ p ∈ parents ∧ wantsOrphan c p child = true := by
  unfold Cfg.potentialParents wantsOrphan
  cases (c.parentNamespaced && getNamespace child != "")
  · simp only [Bool.false_eq_true, if_false, List.mem_filter, Bool.true_and]
    rfl
  · simp only [if_true, List.mem_filter, Bool.and_eq_true, and_assoc]
    rfl

theorem onChildAdd_controlled (c : Cfg) (parents : List J) (child : J) (ref : OwnerRef)
    (h : controllerOf child = some ref) : c.onChildAdd parents child = c.onChildDelete parents child := by
  unfold Cfg.onChildAdd Cfg.onChildDelete
  rw [h]
  exact ite_self _

theorem mem_onChildAdd (c : Cfg) (parents : List J) (hu : UniqueKeys parents) (child : J) (k : String) :
    k ∈ c.onChildAdd parents child ↔
      ∃ p ∈ parents, (admitted c p = true ∧
        (match controllerOf child with
         | some ref => refersTo c (getNamespace child) ref p
         | none => !isDeleting child && wantsOrphan c p child) = true) ∧ metaKey p = k := by
  cases hc : controllerOf child with
  | some ref =>
    have hd := mem_onChildDelete c parents hu child k
    rw [hc] at hd
    rw [onChildAdd_controlled c parents child ref hc]
    exact hd
  | none =>
    unfold Cfg.onChildAdd Cfg.onChildDelete
    rw [hc]
    cases isDeleting child
    · simp only [Bool.false_eq_true, if_false, List.mem_flatMap, mem_potentialParents, mem_enqueue, Bool.not_false,
        Bool.true_and]
      constructor
      · rintro ⟨p, ⟨hp, hw⟩, ha, hk⟩; exact ⟨p, hp, ⟨ha, hw⟩, hk⟩
      · rintro ⟨p, hp, ⟨ha, hw⟩, hk⟩; exact ⟨p, ⟨hp, hw⟩, ha, hk⟩
    · simp

theorem onChild_eq (c : Cfg) (parents : List J) (ev : Event) :
    c.onChild parents ev =
      if isReplay ev then [] else if ev.type == .delete then c.onChildDelete parents ev.obj else c.onChildAdd parents ev.obj := by
  unfold Cfg.onChild isReplay
  cases ev.type
  · rfl
  · cases getResourceVersion ev.old == getResourceVersion ev.obj <;> rfl
  · rfl

/-- child events, soundness and completeness: a key is queued iff it is the key of a cached parent the event wakes -/
theorem C14_child (c : Cfg) (parents : List J) (ev : Event) (hu : UniqueKeys parents) (k : String) :
    k ∈ c.onChild parents ev ↔ ∃ p ∈ parents, childWakes c ev p = true ∧ metaKey p = k := by
  rw [onChild_eq]
  unfold childWakes
  cases isReplay ev
  · cases hty : ev.type == .delete
    · simp only [Bool.false_eq_true, if_false, Bool.not_false, Bool.true_and, Bool.and_eq_true, bne, hty]
      exact mem_onChildAdd c parents hu ev.obj k
    · simp only [if_true, Bool.false_eq_true, if_false, Bool.not_false, Bool.not_true, Bool.true_and, Bool.false_and,
        Bool.and_eq_true, bne, hty]
      exact mem_onChildDelete c parents hu ev.obj k
  · simp

theorem relatedSlice_eq (ev : Event) :
    relatedSlice ev = if isReplay ev then [] else if ev.type == .update then [ev.old, ev.obj] else [ev.obj] := by
  unfold relatedSlice isReplay
  cases ev.type
  · rfl
  · cases getResourceVersion ev.old == getResourceVersion ev.obj <;> rfl
  · rfl

/-- related-object events: a key is queued iff it is the key of a cached parent the event wakes (`relatedWakes`) -/
theorem C14_related (c : Cfg) (parents : List J) (answer : J → Option J) (ev : Event) (k : String) :
    k ∈ c.onRelated parents answer ev ↔ ∃ p ∈ parents, relatedWakes c answer ev p = true ∧ metaKey p = k := by
  unfold Cfg.onRelated relatedParents relatedWakes
  rw [relatedSlice_eq]
  cases isReplay ev
  · have hne : (if (ev.type == EvType.update) = true then [ev.old, ev.obj] else [ev.obj]).isEmpty = false := by
      split <;> rfl
    simp only [Bool.false_eq_true, if_false, hne, List.mem_flatMap, List.mem_filter, mem_enqueue, Bool.not_false,
      Bool.true_and, Bool.and_eq_true]
    constructor
    · rintro ⟨p, ⟨hp, hm⟩, ha, hk⟩; exact ⟨p, hp, ⟨ha, hm⟩, hk⟩
    · rintro ⟨p, hp, ⟨ha, hm⟩, hk⟩; exact ⟨p, ⟨hp, hm⟩, ha, hk⟩
  · simp

/-- cache resyncs (unchanged resourceVersion) enqueue nothing -/
theorem C14_replay_silent (c : Cfg) (parents : List J) (answer : J → Option J) (ev : Event) (h : isReplay ev = true) :
    c.onChild parents ev = [] ∧ c.onRelated parents answer ev = [] := by
  unfold Cfg.onRelated relatedParents
  rw [onChild_eq, relatedSlice_eq, h]
  exact ⟨rfl, rfl⟩

/-- parents that neither match nor carry the finalizer are never queued, by any handler -/
theorem C14_only_admitted (c : Cfg) (parents : List J) (answer : J → Option J) (ev : Event) (hu : UniqueKeys parents) (k : String)
    (h : k ∈ c.onParent ev ∨ k ∈ c.onChild parents ev ∨ k ∈ c.onRelated parents answer ev) :
    ∃ p, admitted c p = true ∧ metaKey p = k ∧ (p = ev.obj ∨ p ∈ parents) := by
  rcases h with h | h | h
  · rw [C14_parent] at h
    split at h
    · rename_i hw
      unfold parentWoken at hw
      simp only [Bool.and_eq_true] at hw
      exact ⟨ev.obj, hw.1, (List.mem_singleton.1 h).symm, Or.inl rfl⟩
    · cases h
  · obtain ⟨p, hp, hw, hk⟩ := (C14_child c parents ev hu k).mp h
    unfold childWakes at hw
    simp only [Bool.and_eq_true] at hw
    exact ⟨p, hw.1.2, hk, Or.inr hp⟩
  · obtain ⟨p, hp, hw, hk⟩ := (C14_related c parents answer ev k).mp h
    unfold relatedWakes at hw
    simp only [Bool.and_eq_true] at hw
    exact ⟨p, hw.1.2, hk, Or.inr hp⟩

/-- a controlled child wakes only the parent its owner reference resolves to by kind, name and UID: at most one key -/
theorem C14_controlled_child_one_parent (c : Cfg) (parents : List J) (ev : Event) (ref : OwnerRef)
    (h : controllerOf ev.obj = some ref) : (c.onChild parents ev).length ≤ 1 := by
  rw [onChild_eq, onChildAdd_controlled c parents ev.obj ref h, ite_self]
  unfold Cfg.onChildDelete
  simp only [h]
  cases isReplay ev
  · cases c.resolveRef parents (getNamespace ev.obj) ref with
    | none => exact Nat.zero_le _
    | some p => exact enqueue_length c p
  · exact Nat.zero_le _

/-! Decorator: parent and child events, with `(apiVersion, kind, namespace, name)` as cache key. -/

theorem dAdmitted_eq (c : DCfg) (p : J) : dAdmitted c p = !c.ignored p := by
  unfold dAdmitted DCfg.ignored
  cases c.selMatches p <;> cases hasFinalizer p c.finalizer.name <;> rfl

theorem mem_dEnqueue (c : DCfg) (p : J) (k : String) :
    k ∈ c.enqueue p ↔ dAdmitted c p = true ∧ decoratorKey p = k := by
  rw [dAdmitted_eq]; unfold DCfg.enqueue
  cases c.ignored p <;> simp [eq_comm]

theorem dOnParent_eq (c : DCfg) (ev : Event) :
    c.onParent ev =
      if ev.type == .update && (c.ruleExact ev.old).any (fun r => r.ignoreStatusChanges) && statusOnlyChange ev.old ev.obj
      then [] else c.enqueue ev.obj := by
  unfold DCfg.onParent
  cases ev.type <;> rfl

theorem C14_parent_decorator (c : DCfg) (ev : Event) :
    c.onParent ev = if dParentWoken c ev then [decoratorKey ev.obj] else [] := by
  rw [dOnParent_eq]
  unfold dParentWoken DCfg.enqueue
  rw [dAdmitted_eq]
  cases (ev.type == .update && (c.ruleExact ev.old).any (fun r => r.ignoreStatusChanges) && statusOnlyChange ev.old ev.obj) <;>
    cases c.ignored ev.obj <;> rfl

theorem uniqueKeysD_find {parents : List J} (hu : UniqueKeysD parents) (av kd ns name : String) :
    ∀ a ∈ parents, ∀ b ∈ parents,
      (getAPIVersion a == av && getKind a == kd && getNamespace a == ns && getName a == name) = true →
      (getAPIVersion b == av && getKind b == kd && getNamespace b == ns && getName b == name) = true → a = b := by
  refine unique_of_pairwise hu fun a b fa fb => ?_
  simp only [Bool.and_eq_true, beq_iff_eq] at fa fb
  obtain ⟨⟨⟨a1, a2⟩, a3⟩, a4⟩ := fa
  obtain ⟨⟨⟨b1, b2⟩, b3⟩, b4⟩ := fb
  exact ⟨a1.trans b1.symm, a2.trans b2.symm, a3.trans b3.symm, a4.trans b4.symm⟩

theorem dResolveRef_iff (c : DCfg) (parents : List J) (hu : UniqueKeysD parents) (ns : String) (ref : OwnerRef) (p : J) :
    c.resolveRef parents ns ref = some p ↔ p ∈ parents ∧ dAdmitted c p = true ∧ dRefersTo c ns ref p = true := by
  unfold DCfg.resolveRef dRefersTo
  rw [dAdmitted_eq]
  cases (c.resources.reverse).find? (fun r => r.group == apiGroup ref.apiVersion && r.kind == ref.kind) with
  | none => simp
  | some res =>
    refine (pick_eq_some (ign := c.ignored) (uniqueKeysD_find hu _ _ _ _) p).trans ?_
    simp only [Bool.and_eq_true, beq_iff_eq, Bool.not_eq_true']
    constructor
    · rintro ⟨h0, ⟨⟨⟨h1, h2⟩, h3⟩, h4⟩, h5, h6⟩; exact ⟨h0, h6, ⟨⟨⟨h1, h2⟩, h4.symm⟩, h3⟩, h5⟩
    · rintro ⟨h0, h6, ⟨⟨⟨h1, h2⟩, h4⟩, h3⟩, h5⟩; exact ⟨h0, ⟨⟨⟨h1, h2⟩, h3⟩, h4.symm⟩, h5, h6⟩

theorem mem_dOnChildDelete (c : DCfg) (parents : List J) (hu : UniqueKeysD parents) (child : J) (k : String) :
    k ∈ c.onChildDelete parents child ↔
      ∃ p ∈ parents, (dAdmitted c p = true ∧
        (match controllerOf child with
         | some ref => dRefersTo c (getNamespace child) ref p
         | none => false) = true) ∧ decoratorKey p = k := by
  unfold DCfg.onChildDelete
  cases controllerOf child with
  | none => simp
  | some ref =>
    exact mem_resolved (dResolveRef_iff c parents hu _ ref) (fun p => mem_dEnqueue c p k)

theorem dOnChild_eq (c : DCfg) (parents : List J) (ev : Event) :
    c.onChild parents ev = if isReplay ev then [] else c.onChildDelete parents ev.obj := by
  unfold DCfg.onChild DCfg.onChildAdd isReplay
  rw [ite_self]
  cases ev.type
  · rfl
  · cases getResourceVersion ev.old == getResourceVersion ev.obj <;> rfl
  · rfl

theorem C14_child_decorator (c : DCfg) (parents : List J) (ev : Event) (hu : UniqueKeysD parents) (k : String) :
    k ∈ c.onChild parents ev ↔ ∃ p ∈ parents, dChildWakes c ev p = true ∧ decoratorKey p = k := by
  rw [dOnChild_eq]
  unfold dChildWakes
  cases isReplay ev
  · simp only [Bool.false_eq_true, if_false, Bool.not_false, Bool.true_and, Bool.and_eq_true]
    exact mem_dOnChildDelete c parents hu ev.obj k
  · simp

/-- decorators never react to orphans -/
theorem C14_decorator_ignores_orphans (c : DCfg) (parents : List J) (ev : Event) (h : controllerOf ev.obj = none) :
    c.onChild parents ev = [] := by
  rw [dOnChild_eq]
  unfold DCfg.onChildDelete
  rw [h]
  split <;> rfl

/-! Concrete instances of the hypotheses and of `childWakes`. -/
namespace Example

/-- namespaced parent kind `Thing` in group `ctl.example.com`, generated selector (`controller-uid` label) -/
def cfg : Cfg :=
  { name := "cc", parentGroup := "ctl.example.com", parentVersion := "v1", parentKind := "Thing",
    parentResource := "things", parentNamespaced := true, parentHasStatus := true, children := [],
    generateSelector := true, parentSelector := none, finalize := false, customize := false, ssa := false,
    fieldPaths := [] }
def p1 : J := .obj [("metadata", .obj [("name", .str "a"), ("namespace", .str "ns"), ("uid", .str "u1")])]
def p2 : J := .obj [("metadata", .obj [("name", .str "b"), ("namespace", .str "ns"), ("uid", .str "u2")])]

/-- an orphan in the parents' namespace carrying the label the generated selector of `p2` asks for -/
def orphan : J := .obj [("metadata", .obj [("name", .str "y"), ("namespace", .str "ns"), ("resourceVersion", .str "2"),
  ("labels", .obj [("controller-uid", .str "u2")])])]
def evOrphan : Event := { type := .add, obj := orphan }

/-- the cache hypothesis holds for two parents with distinct names -/
example : UniqueKeys [p1, p2] := by unfold UniqueKeys; decide +kernel

/-- the orphan wakes `p2` and not `p1` -/
example : childWakes cfg evOrphan p2 = true ∧ childWakes cfg evOrphan p1 = false := by decide +kernel

/-- ... hence, by `C14_child`, the handler queues the key of `p2` -/
example : "ns/b" ∈ cfg.onChild [p1, p2] evOrphan :=
  (C14_child cfg [p1, p2] evOrphan (by unfold UniqueKeys; decide +kernel) "ns/b").mpr
    ⟨p2, by simp, by decide +kernel, by decide +kernel⟩

/-- ... and, by the soundness direction, not the key of `p1` -/
example : ¬ "ns/a" ∈ cfg.onChild [p1, p2] evOrphan := by
  intro h
  obtain ⟨p, hp, hw, hk⟩ := (C14_child cfg [p1, p2] evOrphan (by unfold UniqueKeys; decide +kernel) "ns/a").mp h
  simp only [List.mem_cons, List.not_mem_nil, or_false] at hp
  rcases hp with rfl | rfl
  · revert hw; decide +kernel
  · revert hk; decide +kernel

/-- the model itself evaluates to the same queue content -/
example : cfg.onChild [p1, p2] evOrphan = ["ns/b"] := by decide +kernel

/-- a replay of the same object wakes nobody -/
example : childWakes cfg { type := .update, old := orphan, obj := orphan } p2 = false := by decide +kernel

/- A controlled child. `apiGroup` goes through `String.splitOn`, which neither `decide` nor `rfl` can evaluate
   (well-founded recursion), so the parent group of this configuration is written as the group *of the reference's
   apiVersion* (`#eval` shows it is "ctl.example.com"); everything else is evaluated. -/
def cfgG : Cfg := { cfg with parentGroup := apiGroup "ctl.example.com/v1" }
def ref1 : OwnerRef :=
  { apiVersion := "ctl.example.com/v1", kind := "Thing", name := "a", uid := "u1", controller := some true,
    blockOwnerDeletion := none }
def child : J := .obj [("metadata", .obj [("name", .str "x"), ("namespace", .str "ns"), ("resourceVersion", .str "2"),
  ("ownerReferences", .arr [.obj [("apiVersion", .str "ctl.example.com/v1"), ("kind", .str "Thing"),
     ("name", .str "a"), ("uid", .str "u1"), ("controller", .bool true)]])])]
def evChild : Event := { type := .delete, tombstone := true, obj := child }

example : childWakes cfgG evChild p1 = true := by
  have h1 : isReplay evChild = false := by decide +kernel
  have h2 : admitted cfgG p1 = true := by decide +kernel
  have h3 : controllerOf evChild.obj = some ref1 := by decide +kernel
  have h4 : refersTo cfgG (getNamespace evChild.obj) ref1 p1 = true := by
    unfold refersTo
    have hg : (apiGroup ref1.apiVersion == cfgG.parentGroup) = true := beq_self_eq_true _
    rw [hg]; decide +kernel
  unfold childWakes
  rw [h1, h2, h3]
  exact h4

end Example

end Mc.C14
