import Mc.Generated
/-
  C12, regenerated tie: every place where the sync paths test the kind of an API error (`apierrors.IsNotFound`,
  `IsConflict`, `IsAlreadyExists`, `IsGone`) is re-read from the Go source on every run.  These are exactly the
  "documented benign races" the model tolerates:

    deleteChildren   NotFound                      `deleteGroup`: `.err "NotFound"` is not an error
    updateChildren   NotFound (delete), NotFound / Conflict (update), AlreadyExists (create)   `childStep`: the `verdict` lists
    sync             NotFound                      the parent is gone: nothing to do
    syncParentObject NotFound / Conflict           the parent status write (composite); status + object write (decorator)
    releaseChild / releaseControllerRevision   NotFound, Gone    `claimOne`, release branch
    ClaimObject      NotFound (adopt), NotFound (release)        `claimOne`

  A newly tolerated error kind, or one that is no longer tolerated, changes `Generated.apierrorUses` and breaks
  `C12_tolerated_inventory`; the check then looks for a failing input with the fault streams.
-/
namespace Mc
namespace C12

def toleratedInventory : List (String × String × String) :=
  [("common/manage_children.go", "deleteChildren", "IsNotFound"),
   ("common/manage_children.go", "updateChildren", "IsNotFound"),
   ("common/manage_children.go", "updateChildren", "IsNotFound"),
   ("common/manage_children.go", "updateChildren", "IsConflict"),
   ("common/manage_children.go", "updateChildren", "IsAlreadyExists"),
   ("composite/controller.go", "sync", "IsNotFound"),
   ("composite/controller.go", "syncParentObject", "IsNotFound"),
   ("composite/controller.go", "syncParentObject", "IsConflict"),
   ("decorator/controller.go", "sync", "IsNotFound"),
   ("decorator/controller.go", "syncParentObject", "IsNotFound"),
   ("decorator/controller.go", "syncParentObject", "IsConflict"),
   ("decorator/controller.go", "syncParentObject", "IsNotFound"),
   ("decorator/controller.go", "syncParentObject", "IsConflict"),
   ("controllerref/unstructured.go", "releaseChild", "IsNotFound"),
   ("controllerref/unstructured.go", "releaseChild", "IsGone"),
   ("controllerref/controller_revision.go", "releaseControllerRevision", "IsNotFound"),
   ("controllerref/controller_revision.go", "releaseControllerRevision", "IsGone"),
   ("kubernetes/controller_ref_manager.go", "ClaimObject", "IsNotFound"),
   ("kubernetes/controller_ref_manager.go", "ClaimObject", "IsNotFound")]

/-- **the error kinds the code classifies, and where, are the ones the model tolerates** -/
theorem C12_tolerated_inventory : Generated.apierrorUses = toleratedInventory := rfl

end C12
end Mc
