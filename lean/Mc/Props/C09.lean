import Mc.Proofs.SyncFootprint
/-
  C09 - rollout intent is persisted before acting: within one sync every ControllerRevision write
  precedes every create / delete / apply / patch of a child, and a failed ControllerRevision write
  ends the sync before any child is written. Theorems about the whole `Prog` tree: every branch,
  i.e. every possible sequence of API-server and webhook answers.
-/
namespace Mc.C09
open Mc Prog

/-- neither the parent resource nor a child resource of the controller is the ControllerRevision resource
    itself (otherwise the request classes "revision write" and "parent / child write" overlap) -/
def NoRevResources (c : Cfg) : Prop :=
  ¬ (c.parentGroup = revGroup ∧ c.parentResource = revResource) ∧
  ∀ ch ∈ c.children, ¬ (ch.group = revGroup ∧ ch.resource = revResource)

/-- C09.1 - after the hook result has been turned into revisions, the tail of the sync (finalizer removal,
    children, parent status) never writes a ControllerRevision (by the footprint `compositeTail_sat`: the parent object, whatever
    name the API server returned for it, and the configured child resources) -/
theorem C09_tail_no_revision_write (c : Cfg) (parent : J) (observed : ObjMap) (resp : CompResp) (memo : Memo)
    (h : NoRevResources c) :
    NoQ (fun r => r.isRevWrite = true) (compositeTail c parent observed resp memo) := by
  refine (compositeTail_sat (tm := true) c parent observed resp memo (fun p => ?_) ?_).calls
  · have hp : ∀ v b, ¬ (Req.api v (c.parentTarget p) b .null).isRevWrite = true := fun v b => by
      simp [Req.isRevWrite_of_not_rev v (c.parentTarget p) b .null h.1]
    exact ⟨hp _ _, hp _, hp _⟩
  · intro av k info hinfo v ns name b o _
    obtain ⟨ch, hmem, hg, hr, _⟩ := Cfg.kindTable_find c av k info hinfo
    have hrev := h.2 ch hmem
    simp [Req.isRevWrite_of_not_rev v (targetOf info.group info.resource info.namespaced ns name) b o
      (by simpa [targetOf, hg, hr] using hrev)]

/-- C09.2a - claiming children only reads the parent and reads / updates children (adopt, release) -/
theorem C09_head_no_child_mutation_claim (c : Cfg) (cache : Cache) (parent : J) (pt : Target) :
    NoQ (fun r => r.isChildMutation pt = true) (claimChildren c cache parent) := by
  refine (claimChildren_sat (tm := true) c cache parent (fun _ => ⟨?_, ?_⟩)).calls
  · simp [Req.isChildMutation_of_verb]
  · intro ch _ ns name
    simp [Req.isChildMutation_of_verb]

/-- C09.2b - the related-object lookup only calls the customize hook -/
theorem C09_head_no_child_mutation_related (enabled pn : Bool) (relRes : List ChildRes) (cache : Cache) (parent : J)
    (cached : CustCache) (pt : Target) :
    NoQ (fun r => r.isChildMutation pt = true) (getRelatedObjects enabled pn relRes cache parent cached) := by
  refine (getRelatedObjects_sat ?_ ..).calls
  intro q
  simp [Req.isChildMutation_of_not_child pt _ (Req.isChild_hook pt _ q)]

/-- C09.2c - the revision phase calls hooks, reads the parent, and reads / writes ControllerRevisions only -/
theorem C09_head_no_child_mutation_revisions (c : Cfg) (cache : Cache) (parent : J) (observed related : ObjMap)
    (name : String) (pt : Target) :
    NoQ (fun r => r.isChildMutation pt = true) (syncRevisions c cache parent observed related name) := by
  refine (syncRevisions_sat ?_ c cache parent observed related name ?_ ?_).calls
  · intro n q
    simp [Req.isChildMutation_of_not_child pt _ (Req.isChild_hook pt n q)]
  · simp [Req.isChildMutation_of_verb]
  · intro v n b o
    simp [Req.isChildMutation_of_not_child pt _ (Req.isChild_revTarget v pt b o _ n)]

/-- C09.2 - nothing before the tail of the sync creates, deletes, applies or patches a child
    (for any target `pt` taken as "the parent") -/
theorem C09_head_no_child_mutation (c : Cfg) (cache : Cache) (parent : J) (observed related : ObjMap)
    (name : String) (cached : CustCache) (pt : Target) :
    NoQ (fun r => r.isChildMutation pt = true) (claimChildren c cache parent) ∧
    NoQ (fun r => r.isChildMutation pt = true)
      (getRelatedObjects c.customize c.parentNamespaced c.related cache parent cached) ∧
    NoQ (fun r => r.isChildMutation pt = true) (syncRevisions c cache parent observed related name) :=
  ⟨C09_head_no_child_mutation_claim .., C09_head_no_child_mutation_related .., C09_head_no_child_mutation_revisions ..⟩

theorem tailCont_no_revision_write (c : Cfg) (parent : J) (observed : ObjMap) (h : Hidden) (cust : CustCache)
    (hc : NoRevResources c) (resp : Except Err CompResp) :
    NoQ (fun r => r.isRevWrite = true) (tailCont c parent observed h cust resp) := by
  unfold tailCont
  split
  · exact .ret _
  · exact AllCalls.bind (C09_tail_no_revision_write c parent observed _ h.memo hc) (fun _ => .ret _)

/-- C09.3 - order: in the sync after the finalizer phase (`afterFinalizer`, see `syncParentObjectFull_eq`),
    on every branch, no ControllerRevision write comes after a create / delete / apply / patch of a child -/
theorem C09_order (c : Cfg) (cache : Cache) (parent : J) (name : String) (h : Hidden) (pt : Target)
    (hc : NoRevResources c) :
    NoPAfterQ (fun r => r.isRevWrite = true) (fun r => r.isChildMutation pt = true)
      (afterFinalizer c cache parent name h) := by
  unfold afterFinalizer
  refine NoPAfterQ.bind (C09_head_no_child_mutation_claim ..) (fun r => ?_)
  rcases r with e | observed
  · exact .ret _
  refine NoPAfterQ.bind (C09_head_no_child_mutation_related ..) (fun r => ?_)
  rcases r with e | ⟨related, cust⟩
  · exact .ret _
  exact NoPAfterQ.seq (C09_head_no_child_mutation_revisions ..) (tailCont_no_revision_write _ _ _ _ _ hc)

/-- C09.3, for the whole `syncParentObjectFull`: the finalizer phase only touches the parent object -/
theorem C09_order_full (c : Cfg) (cache : Cache) (parent : J) (name : String) (h : Hidden) (pt : Target)
    (hc : NoRevResources c) :
    NoPAfterQ (fun r => r.isRevWrite = true) (fun r => r.isChildMutation pt = true)
      (syncParentObjectFull c cache parent name h) := by
  rw [syncParentObjectFull_eq]
  split
  · exact .ret _
  · refine NoPAfterQ.bind (syncObject_calls _ _ _ ?_ ?_) (fun r => ?_)
    · simp [Req.isChildMutation_of_verb]
    · simp [Req.isChildMutation_of_verb]
    unfold finalizerCont
    split
    · exact .ret _
    · split
      · exact .ret _
      · exact C09_order c cache _ name h pt hc

/-- C09.4a - `manageRevisions` aborts on the first failure: after an error answer to one of its requests
    (all of them ControllerRevision writes) it issues no further request at all, and it returns an error -/
theorem C09_manageRevisions_failed_write_stops (ns : String) (observed : List J) (desired : List (J × List CGroup)) :
    HaltsAfter (fun _ x => x.isErr = true) (fun _ => True) (manageRevisions ns observed desired) ∧
    AllCalls (fun r => r.isRevWrite = true) (manageRevisions ns observed desired) := by
  refine ⟨(manageRevisions_stops ns observed desired (fun _ _ h => h)).haltsAfter, ?_⟩
  refine (manageRevisions_sat (tm := true) ns observed desired ?_).calls
  intro v name b o hv
  rcases hv with rfl | rfl | rfl <;>
    simp [Req.isRevWrite, Req.isRevision_revTarget, Req.isWrite, Req.verb?, Verb.isWrite]

/-- C09.4b - once a ControllerRevision write of the revision phase proper (everything after the revisions
    have been claimed, see `syncRevisions_eq`) is answered with an error, the sync issues no request any more:
    the error travels through `syncRevisionsFrom` and `tailCont` returns at once -/
theorem C09_failed_revision_write_stops_partial (c : Cfg) (parent : J) (observed related : ObjMap) (name : String)
    (revs : List J) (h : Hidden) (cust : CustCache) (hc : NoRevResources c) :
    HaltsAfter (fun r x => r.isRevWrite = true ∧ x.isErr = true) (fun _ => True)
      (Prog.bind (syncRevisionsFrom c parent observed related name revs) (tailCont c parent observed h cust)) := by
  -- a ControllerRevision write can only fail inside `manageRevisions`
  refine HaltsAfter.bind (syncRevisionsFrom_stops c parent observed related name revs
    (fun inputs => .of_noG (callHooks_sat (fun n q x hx => by simp [Req.isRevWrite_hook] at hx) ..).calls)
    (fun obs des => manageRevisions_stops _ obs des (fun _ _ hx => hx.2))) (fun resp => ?_) ?_
  · apply HaltsAfter.of_noG
    exact (tailCont_no_revision_write c parent observed h cust hc resp).mono (fun r hr x hx => hr hx.1)
  · rintro resp ⟨e, rfl, _⟩
    exact .ret _

/-- in particular no child is written any more -/
theorem C09_failed_revision_write_stops_children (c : Cfg) (parent : J) (observed related : ObjMap) (name : String)
    (revs : List J) (h : Hidden) (cust : CustCache) (hc : NoRevResources c) (pt : Target) :
    HaltsAfter (fun r x => r.isRevWrite = true ∧ x.isErr = true) (fun r => r.isChildWrite pt = true)
      (Prog.bind (syncRevisionsFrom c parent observed related name revs) (tailCont c parent observed h cust)) :=
  (C09_failed_revision_write_stops_partial c parent observed related name revs h cust hc).mono
    (fun _ _ hg => hg) (fun _ _ => True.intro)

/-- why C09.4 excludes NotFound / Gone: such an answer to the update that releases a ControllerRevision is
    swallowed by `claimOne` - no error is reported, the sync goes on -/
theorem claimOne_release_swallows (cx : ClaimCtx) (obj : J) (st : AdoptState)
    (hdec : claimDecision (getUID cx.parent) (isDeleting cx.parent) (cx.selector.matches (labelsOf obj)) obj = .release)
    (hr : cx.clientRefuses = false) :
    ∃ K, claimOne cx obj st =
        Prog.bind (atomicLoop (cx.childT obj) (getUID obj)
          (fun cur => some (cx.setRefs cur (removeOwnerReference (getOwnerRefs cur) (getUID cx.parent))))
          .update cx.goneReason retrySteps) K ∧
      K (.error "NotFound") = .ret ((false, none), st) ∧ K (.error "Gone") = .ret ((false, none), st) := by
  unfold claimOne
  rw [hdec]
  simp only [hr]
  exact ⟨_, rfl, rfl, rfl⟩

/-- … and the loop hands a NotFound answer to its write straight back -/
theorem atomicLoop_write_notFound (t : Target) (uid : String) (g : J → J) (verb : Verb) (gone : String) (n : Nat) :
    ∃ k, atomicLoop t uid (fun cur => some (g cur)) verb gone (n + 1) = .call (.api .get t .null .null) k ∧
      ∀ cur, getUID cur = uid → ∃ k2, k (.obj cur) = .call (.api verb t (g cur) .null) k2 ∧
        k2 (.err "NotFound") = .ret (.error "NotFound") := by
  rw [atomicLoop_succ]
  refine ⟨_, rfl, fun cur hu => ?_⟩
  simp only [hu, bne_self_eq_false, Bool.false_eq_true, ↓reduceIte]
  exact ⟨_, rfl, rfl⟩

/-- C09.4 - the whole revision phase followed by the tail: once a ControllerRevision write is answered with a
    *hard* error (any reason but NotFound / Gone / Conflict), no child is written any more in this sync.
    (NotFound and Gone answers to the adopt / release updates of `claimRevisions` are swallowed by the claim
    logic and a Conflict is retried, so for those the sync legitimately goes on:
    `claimOne_release_swallows`, `atomicLoop_write_notFound` above.) -/
theorem C09_failed_revision_write_stops (c : Cfg) (cache : Cache) (parent : J) (observed related : ObjMap)
    (name : String) (h : Hidden) (cust : CustCache) (pt : Target) (hc : NoRevResources c) :
    HaltsAfter RevWriteHardFailed (fun r => r.isChildWrite pt = true)
      (Prog.bind (syncRevisions c cache parent observed related name) (tailCont c parent observed h cust)) := by
  refine HaltsAfter.bind (syncRevisions_hardHalts c cache parent observed related name pt) (fun resp => ?_) ?_
  · apply HaltsAfter.of_noG
    exact (tailCont_no_revision_write c parent observed h cust hc resp).mono (fun r hr x hx => hr hx.1)
  · rintro resp ⟨e, rfl, _⟩
    exact .ret _

/-! A controller with one rolling child resource. -/

def exCfg : Cfg :=
  { name := "ex", parentGroup := "example.com", parentVersion := "v1", parentKind := "Thing", parentResource := "things",
    parentNamespaced := true, parentHasStatus := true,
    children := [{ apiVersion := "v1", resource := "pods", kind := "Pod", namespaced := true, hasStatus := true,
                   method := some "RollingRecreate" }],
    generateSelector := true, parentSelector := none, finalize := false, customize := false, ssa := false, fieldPaths := [] }

def exParent : J :=
  .obj [("apiVersion", .str "example.com/v1"), ("kind", .str "Thing"),
        ("metadata", .obj [("name", .str "a"), ("namespace", .str "ns"), ("uid", .str "u1")]),
        ("spec", .obj [("replicas", .num 2)])]

def exCache : Cache := { parents := [exParent], children := [], related := [], revisions := [] }

def exResp : CompResp := { status := none, children := [], resyncAfter := 0, finalized := false }

theorem exCfg_noRev : NoRevResources exCfg := by
  refine ⟨by decide, ?_⟩
  intro ch hch
  simp [exCfg] at hch
  subst hch
  simp [revResource]

example : exCfg.anyRolling = true := by decide +kernel

example : NoQ (fun r => r.isRevWrite = true) (compositeTail exCfg exParent [] exResp []) :=
  C09_tail_no_revision_write exCfg exParent [] exResp [] exCfg_noRev

example : NoQ (fun r => r.isChildMutation (exCfg.parentTarget exParent) = true) (syncRevisions exCfg exCache exParent [] [] "rev1") :=
  C09_head_no_child_mutation_revisions exCfg exCache exParent [] [] "rev1" _

example : NoPAfterQ (fun r => r.isRevWrite = true) (fun r => r.isChildMutation (exCfg.parentTarget exParent) = true)
    (syncParentObjectFull exCfg exCache exParent "rev1" {}) :=
  C09_order_full exCfg exCache exParent "rev1" {} _ exCfg_noRev

example : HaltsAfter RevWriteHardFailed (fun r => r.isChildWrite (exCfg.parentTarget exParent) = true)
    (Prog.bind (syncRevisions exCfg exCache exParent [] [] "rev1") (tailCont exCfg exParent [] {} none)) :=
  C09_failed_revision_write_stops exCfg exCache exParent [] [] "rev1" {} none _ exCfg_noRev

/-- the guard of C09.4 is met by real requests: `manageRevisions` creating the first revision in namespace `ns`
    issues a ControllerRevision write, and a `Forbidden` answer to it is a hard failure -/
example : RevWriteHardFailed (.api .create (revTarget "ns" "rev1") .null .null) (.err "Forbidden") := by
  refine ⟨by decide +kernel, "Forbidden", rfl, by decide +kernel, by decide +kernel, by decide +kernel⟩

example : NoPAfterQ (fun r => r.isRevWrite = true) (fun r => r.isChildMutation (exCfg.parentTarget exParent) = true)
    (afterFinalizer exCfg exCache exParent "rev1" {}) :=
  C09_order exCfg exCache exParent "rev1" {} _ exCfg_noRev

/-- a first revision to be recorded -/
def exRev : J := .obj [("metadata", .obj [("name", .str "rev1"), ("namespace", .str "ns")]), ("parentPatch", .obj [])]

/-- `manageRevisions` does write: recording the first revision is a create of a ControllerRevision … -/
example : ∃ k, manageRevisions "ns" [] [(exRev, [])] =
    .call (.api .create (revTarget "ns" "rev1") (setRevChildren exRev []) .null) k := ⟨_, rfl⟩

/-- … and C09.4a applies to it -/
example : HaltsAfter (fun _ x => x.isErr = true) (fun _ => True) (manageRevisions "ns" [] [(exRev, [])]) :=
  (C09_manageRevisions_failed_write_stops "ns" [] [(exRev, [])]).1

example : HaltsAfter (fun r x => r.isRevWrite = true ∧ x.isErr = true) (fun _ => True)
    (Prog.bind (syncRevisionsFrom exCfg exParent [] [] "rev1" []) (tailCont exCfg exParent [] {} none)) :=
  C09_failed_revision_write_stops_partial exCfg exParent [] [] "rev1" [] {} none exCfg_noRev

end Mc.C09
