import Mc.Props.C06
import Mc.Proofs.ManageLemmas
import Mc.Proofs.JsonLemmas
/-
  C06, lifted from the decision (`updateAct`) to the requests of `updateChildren`:
  what is sent to the target of a desired child is exactly the rendering of the decision taken for it.
  (Separate file: `Mc/Props/C06.lean` imports `Mc.Sync.Common` only.)
-/
namespace Mc.C06
open Prog

abbrev tgt (info : KindInfo) (o : J) : Target :=
  targetOf info.group info.resource info.namespaced (getNamespace o) (getName o)

/-- distinct names ⇒ distinct targets: in a group keyed by qualified names (what `insertUniform` builds) of a
    namespaced resource, two entries with the same request target are the same entry -/
theorem C06_distinct_targets (info : KindInfo) (desired : List (String × J))
    (hn : (desired.map (·.1)).Nodup) (hq : ∀ nd ∈ desired, nd.1 = qualifiedName nd.2) (hns : info.namespaced = true) :
    ∀ a ∈ desired, ∀ b ∈ desired, tgt info a.2 = tgt info b.2 → a = b := by
  intro a ha b hb ht
  refine inj_of_nodup_map (·.1) desired hn a ha b hb ?_
  rw [hq a ha, hq b hb]
  simp only [tgt, targetOf, hns, if_true, Target.mk.injEq, true_and] at ht
  unfold qualifiedName
  rw [ht.1, ht.2]

/-- the same for a cluster-scoped resource whose desired objects carry no namespace -/
theorem C06_distinct_targets_cluster (info : KindInfo) (desired : List (String × J))
    (hn : (desired.map (·.1)).Nodup) (hq : ∀ nd ∈ desired, nd.1 = qualifiedName nd.2)
    (hns : ∀ nd ∈ desired, getNamespace nd.2 = "") :
    ∀ a ∈ desired, ∀ b ∈ desired, tgt info a.2 = tgt info b.2 → a = b := by
  intro a ha b hb ht
  refine inj_of_nodup_map (·.1) desired hn a ha b hb ?_
  rw [hq a ha, hq b hb]
  simp only [tgt, targetOf, Target.mk.injEq, true_and] at ht
  unfold qualifiedName
  rw [hns a ha, hns b hb, ht.2]

/-- the rendering of a decision as a list of requests: none or one -/
def renderList (t : Target) (act : ChildAct) : List Req :=
  match act with
  | .delete uid => [.api .delete t .null (deleteOpts uid)]
  | .update body => [.api .update t body .null]
  | _ => []

theorem renderList_spec (t : Target) (act : ChildAct) (r : Req) : r ∈ renderList t act ↔ RenderOf t act r := by
  cases act <;> simp [renderList, RenderOf]

theorem childReqs_some (mks sys : List String) (method : String) (t : Target) (parentRef : OwnerRef) (o des : J) :
    C12.childReqs mks sys method t parentRef (some o) des = renderList t (updateAct mks sys method o des) := by
  unfold C12.childReqs renderList
  dsimp only
  cases updateAct mks sys method o des <;> rfl

theorem mem_of_target {mks sys : List String} {children : List ChildRes} {info : KindInfo} {kind : String} {parentRef : OwnerRef}
    {observed desired : List (String × J)} {name : String} {des : J} {r : Req}
    (hdist : ∀ nd ∈ desired, tgt info nd.2 = tgt info des → nd = (name, des))
    (hr : r ∈ C12.updateGroupReqs mks sys children info kind parentRef observed desired) (ht : r.target? = some (tgt info des)) :
    r ∈ C12.childReqs mks sys (getMethod children info.group kind) (tgt info des) parentRef (observed.lookup name) des := by
  obtain ⟨nd, hnd, h⟩ := C12.mem_updateGroupReqs.mp hr
  have := hdist nd hnd (Option.some.inj ((C12.childReqs_target _ _ _ _ _ _ _ r h).symm.trans ht))
  subst this
  exact h

/-- **C06_lift**: in `updateChildren` (dynamic apply), every request addressed to the target of an observed desired child
    is the rendering of the decision `updateAct` took for it under the configured method: nothing when the decision is
    `.none` / `.error`, the UID-guarded delete when it is `.delete uid`, the update with the merged body when `.update body` -/
theorem C06_lift (mks sys : List String) (children : List ChildRes) (info : KindInfo) (kind : String)
    (parentRef : OwnerRef) (observed desired : List (String × J)) (memo : Memo) (name : String) (des obs : J)
    (hobs : observed.lookup name = some obs)
    (hdist : ∀ nd ∈ desired, tgt info nd.2 = tgt info des → nd = (name, des)) :
    AllCalls (fun r => r.target? = some (tgt info des) →
        RenderOf (tgt info des) (updateAct mks sys (getMethod children info.group kind) obs des) r)
      (updateGroup mks sys children none info kind parentRef observed desired memo) := by
  refine (C12.updateGroup_issues ..).allCalls fun r hr ht => ?_
  have h := mem_of_target hdist hr ht
  rwa [hobs, childReqs_some, renderList_spec] at h

/-- a desired child that is not observed: the only request on its target is the create -/
theorem C06_lift_create (mks sys : List String) (children : List ChildRes) (info : KindInfo) (kind : String)
    (parentRef : OwnerRef) (observed desired : List (String × J)) (memo : Memo) (name : String) (des : J)
    (hobs : observed.lookup name = none)
    (hdist : ∀ nd ∈ desired, tgt info nd.2 = tgt info des → nd = (name, des)) :
    AllCalls (fun r => r.target? = some (tgt info des) → r = .api .create (tgt info des) (createBody parentRef des) .null)
      (updateGroup mks sys children none info kind parentRef observed desired memo) := by
  refine (C12.updateGroup_issues ..).allCalls fun r hr ht => ?_
  have h := mem_of_target hdist hr ht
  rw [hobs] at h
  exact List.mem_singleton.mp h

/-- at the level of requests: under OnDelete nothing is ever sent to an observed child -/
theorem C06_lift_ondelete (mks sys : List String) (children : List ChildRes) (info : KindInfo) (kind : String)
    (parentRef : OwnerRef) (observed desired : List (String × J)) (memo : Memo) (name : String) (des obs : J)
    (hobs : observed.lookup name = some obs)
    (hdist : ∀ nd ∈ desired, tgt info nd.2 = tgt info des → nd = (name, des))
    (hm : getMethod children info.group kind = "OnDelete") :
    NoQ (fun r => r.target? = some (tgt info des))
      (updateGroup mks sys children none info kind parentRef observed desired memo) := by
  refine AllCalls.mono ?_ (C06_lift mks sys children info kind parentRef observed desired memo name des obs hobs hdist)
  intro r h ht
  have h' := h ht
  have := C06_ondelete mks sys (getMethod children info.group kind) obs des (Or.inl hm)
  cases ha : updateAct mks sys (getMethod children info.group kind) obs des with
  | none => simp [ha, RenderOf] at h'
  | error e => simp [ha, RenderOf] at h'
  | delete uid => simp [ha, ChildAct.isDelete] at this
  | update body => simp [ha, ChildAct.isUpdate] at this

/-- **C06_lift, exact form**: on every branch `updateChildren` issues one and the same request list, and its requests addressed
    to the target of an observed desired child are exactly the rendering of the decision taken for it:
    none for `.none` / `.error`, the one UID-guarded delete for `.delete uid`, the one update for `.update body` -/
theorem C06_lift_exact (mks sys : List String) (children : List ChildRes) (info : KindInfo) (kind : String)
    (parentRef : OwnerRef) (observed desired : List (String × J)) (memo : Memo) (name : String) (des obs : J)
    (hobs : observed.lookup name = some obs) (hmem : (name, des) ∈ desired) (hn : (desired.map (·.1)).Nodup)
    (hdist : ∀ nd ∈ desired, tgt info nd.2 = tgt info des → nd = (name, des)) :
    ∃ rs, Issues rs (updateGroup mks sys children none info kind parentRef observed desired memo) ∧
      rs.filter (fun r => r.target? = some (tgt info des)) =
        renderList (tgt info des) (updateAct mks sys (getMethod children info.group kind) obs des) := by
  refine ⟨_, C12.updateGroup_issues .., ?_⟩
  have hnd : desired.reverse.Nodup := by
    rw [List.nodup_iff_pairwise_ne, List.pairwise_reverse]
    exact (List.nodup_iff_pairwise_ne.mp hn).of_map (·.1) fun _ _ h e => h (congrArg _ e.symm)
  rw [C12.updateGroupReqs_eq, filter_flatMap_unique _ _ (name, des) ?_ _ hnd (List.mem_reverse.mpr hmem) ?_, hobs, childReqs_some]
  · intro r hr
    simpa using C12.childReqs_target _ _ _ _ _ _ _ r hr
  · intro nd hnd hne r hr
    rw [C12.childReqs_target _ _ _ _ _ _ _ r hr, decide_eq_false_iff_not]
    intro h
    exact hne (hdist nd (List.mem_reverse.mp hnd) (Option.some.inj h))

def exInfo : KindInfo := { group := "", resource := "configmaps", namespaced := true }
def exRef : OwnerRef :=
  { apiVersion := "ex/v1", kind := "P", name := "p", uid := "u-p", controller := some true, blockOwnerDeletion := some true }
def exObs : J := .obj [("apiVersion", .str "v1"), ("kind", .str "ConfigMap"),
  ("metadata", .obj [("name", .str "a"), ("namespace", .str "ns"), ("uid", .str "u-a")]), ("data", .obj [("k", .str "v1")])]
def exDes : J := .obj [("apiVersion", .str "v1"), ("kind", .str "ConfigMap"),
  ("metadata", .obj [("name", .str "a"), ("namespace", .str "ns")]), ("data", .obj [("k", .str "v2")])]
def exDes2 : J := .obj [("apiVersion", .str "v1"), ("kind", .str "ConfigMap"),
  ("metadata", .obj [("name", .str "b"), ("namespace", .str "ns")])]

-- the hypotheses of `C06_lift` hold for a two-children group keyed by qualified names
example (mks sys : List String) (children : List ChildRes) (memo : Memo) :
    AllCalls (fun r => r.target? = some (tgt exInfo exDes) →
        RenderOf (tgt exInfo exDes) (updateAct mks sys (getMethod children exInfo.group "ConfigMap") exObs exDes) r)
      (updateGroup mks sys children none exInfo "ConfigMap" exRef [("ns/a", exObs)] [("ns/a", exDes), ("ns/b", exDes2)] memo) := by
  refine C06_lift mks sys children exInfo "ConfigMap" exRef _ _ memo "ns/a" exDes exObs rfl ?_
  intro nd hnd ht
  exact C06_distinct_targets exInfo [("ns/a", exDes), ("ns/b", exDes2)] (by decide +kernel)
    (by intro x hx; simp at hx; rcases hx with rfl | rfl <;> decide +kernel) rfl nd hnd _ (List.mem_cons_self ..) ht

-- and the rendering is a real request: with no strategy configured (OnDelete) nothing is sent to the observed child,
-- the missing one is created
example : ∃ k, updateGroup ["name"] ["uid"] [] none exInfo "ConfigMap" exRef [("ns/a", exObs)] [("ns/a", exDes), ("ns/b", exDes2)] [] =
    .call (.api .create ⟨"", "configmaps", "ns", "b"⟩ (createBody exRef exDes2) .null) k ∧ k (.obj .null) = .ret ([], []) :=
  ⟨_, rfl, rfl⟩

-- under InPlace the step for the observed child is the update with the merged body
example : ∃ body k, updateAct ["name"] ["uid"] "InPlace" exObs exDes = .update body ∧
    childStep ["name"] ["uid"] "InPlace" (tgt exInfo exDes) exRef (some exObs) exDes = .call (.api .update ⟨"", "configmaps", "ns", "a"⟩ body .null) k :=
  ⟨_, _, rfl, rfl⟩

end Mc.C06
