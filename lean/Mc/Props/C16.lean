import Mc.Proofs.StrMapLemmas
import Mc.Proofs.ObjMapLemmas
/-
  C16 - a decorator changes only labels, annotations, status and finalizer of its target, and
  recognises its attachments by controller reference and marker annotation.
-/
namespace Mc.C16

/-- a named key takes the named value or disappears, every other key is unchanged
    (no hypothesis on `dest` is needed: `lookup` reads the first binding, `eraseKey` drops all) -/
theorem C16_string_map_pointwise (updates : List (String × Option String)) (hd : (updKeys updates).Nodup) :
    ∀ (dest : KVs) (k : String),
    lookup k (updateStringMap dest updates).1 =
      match updates.lookup k with
      | some none => none
      | some (some v) => some (.str v)
      | none => lookup k dest := by
  induction updates with
  | nil => intro dest k; rfl
  | cons hd' tl ih =>
    obtain ⟨a, x⟩ := hd'
    intro dest k
    simp only [updKeys, List.map_cons, List.nodup_cons] at hd
    obtain ⟨d', e, hl, _⟩ := updateStringMap_cons_fst dest a x tl
    rw [e, slookup_cons]
    by_cases hk : k = a
    · rw [if_pos hk, hk, lookup_updateStringMap_other a tl _ hd.1, hl, if_pos rfl]
      cases x <;> rfl
    · rw [if_neg hk, ih hd.2, hl, if_neg hk]

/-- the result is again a map with unique keys -/
theorem C16_string_map_uniq : ∀ (updates : List (String × Option String)) (dest : KVs),
    uniq dest → uniq (updateStringMap dest updates).1 := by
  intro updates
  induction updates with
  | nil => intro dest h; exact h
  | cons hd tl ih =>
    intro dest h
    obtain ⟨d', e, _, hu⟩ := updateStringMap_cons_fst dest hd.1 hd.2 tl
    rw [e]
    exact ih _ (hu h)

/-- nothing changed ⇒ same map -/
theorem C16_changed_flag : ∀ (updates : List (String × Option String)) (dest : KVs),
    (updateStringMap dest updates).2 = false → (updateStringMap dest updates).1 = dest := by
  intro updates
  induction updates with
  | nil => intro dest _; rfl
  | cons hd tl ih =>
    obtain ⟨a, x⟩ := hd
    intro dest h
    cases x with
    | none =>
      cases hh : hasKey a dest with
      | true => rw [updateStringMap_none_has _ _ _ hh] at h; simp at h
      | false => rw [updateStringMap_none_absent _ _ _ hh] at h ⊢; exact ih _ h
    | some v =>
      by_cases hl : lookup a dest = some (.str v)
      · rw [updateStringMap_some_same _ _ _ _ hl] at h ⊢; exact ih _ h
      · rw [updateStringMap_some_diff _ _ _ _ hl] at h; simp at h

/-- conversely the flag is raised only by a real edit: an update list whose every entry already holds
    leaves the flag down -/
theorem C16_flag_false_of_satisfied : ∀ (updates : List (String × Option String)) (dest : KVs),
    (∀ e ∈ updates, match e.2 with | none => lookup e.1 dest = none | some v => lookup e.1 dest = some (.str v)) →
    updateStringMap dest updates = (dest, false) := by
  intro updates
  induction updates with
  | nil => intro dest _; rfl
  | cons hd tl ih =>
    obtain ⟨a, x⟩ := hd
    intro dest h
    have h0 := h (a, x) (by simp)
    have htl := fun e he => h e (List.mem_cons_of_mem _ he)
    cases x with
    | none =>
      simp only [] at h0
      rw [updateStringMap_none_absent _ _ _ ((hasKey_false_iff _ _).2 h0)]; exact ih _ htl
    | some v =>
      simp only [] at h0
      rw [updateStringMap_some_same _ _ _ _ h0]; exact ih _ htl

example : updateStringMap [("a", .str "1"), ("b", .str "2")] [("a", none), ("c", some "3"), ("b", some "2")]
    = ([("b", .str "2"), ("c", .str "3")], true) := by rfl
example : (updKeys [("a", none), ("c", some "3"), ("b", some "2")]).Nodup := by decide +kernel
example : updateStringMap [("a", .str "1")] [("a", some "1"), ("z", none)] = ([("a", .str "1")], false) := by rfl
/-- why distinct keys are required: with a repeated key the *last* entry wins, `List.lookup` reads the first -/
example : lookup "a" (updateStringMap [] [("a", some "1"), ("a", none)]).1 = none ∧
    List.lookup "a" [("a", some "1"), ("a", (none : Option String))] = some (some "1") := by decide +kernel


namespace Ex
def att0 : ChildRes := { apiVersion := "v1", resource := "configmaps", kind := "ConfigMap", namespaced := true, hasStatus := false, method := none }
def rule0 : ParentRes := { apiVersion := "apps/v1", resource := "deployments", kind := "Deployment", namespaced := true, hasStatus := true, labelSel := some (.reqs [.exists_ "app"]), annSel := none }
def dc0 : DCfg := { name := "dec", resources := [rule0], attachments := [att0], finalize := false, customize := false }
def parent0 : J := .obj [("apiVersion", .str "apps/v1"), ("kind", .str "Deployment"),
  ("metadata", .obj [("name", .str "p"), ("namespace", .str "ns"), ("uid", .str "u1"), ("labels", .obj [("app", .str "x")])]),
  ("status", .obj [("replicas", .num 1)])]
def mk (name uid : String) (ann : KVs) : J := .obj [("apiVersion", .str "v1"), ("kind", .str "ConfigMap"),
  ("metadata", .obj [("name", .str name), ("namespace", .str "ns"), ("annotations", .obj ann),
    ("ownerReferences", .arr [.obj [("uid", .str uid), ("controller", .bool true)]])])]
/-- ours: controller reference and marker -/
def o1 : J := mk "a" "u1" [(Generated.decoratorAnnotation, .str "dec")]
/-- controller reference but no marker -/
def o2 : J := mk "b" "u1" []
/-- marker but controlled by someone else -/
def o3 : J := mk "c" "u2" [(Generated.decoratorAnnotation, .str "dec")]
def cache0 : Cache := { parents := [parent0], children := [("configmaps", [o1, o2, o3])], related := [], revisions := [] }
end Ex

def labelPart (r : ParentRes) (o : J) : Prop :=
  match r.labelSel with | none => True | some s => s.matches (labelsOf o) = true

def annotationPart (r : ParentRes) (o : J) : Prop :=
  match r.annSel with | none => True | some s => s.matches (annotationsOf o) = true

/-- both selectors of the rule for the object's group-kind must match -/
theorem C16_selector_conjunction (c : DCfg) (o : J) :
    c.selMatches o = true ↔ ∃ r, c.ruleFor o = some r ∧ labelPart r o ∧ annotationPart r o := by
  unfold DCfg.selMatches labelPart annotationPart
  cases hr : c.ruleFor o with
  | none => simp
  | some r =>
    simp only [Bool.and_eq_true, Option.some.injEq, exists_eq_left']
    cases r.labelSel <;> cases r.annSel <;> simp

/-- which rule: the last declared one for the object's group and kind (version ignored) -/
theorem C16_rule_for (c : DCfg) (o : J) (r : ParentRes) (h : c.ruleFor o = some r) :
    r ∈ c.resources ∧ r.group = apiGroup (getAPIVersion o) ∧ r.kind = getKind o := by
  unfold DCfg.ruleFor at h
  have h1 := List.mem_of_find?_eq_some h
  have h2 := List.find?_some h
  simp only [Bool.and_eq_true, beq_iff_eq] at h2
  exact ⟨by simpa using h1, h2.1, h2.2⟩

/-- an object of an undeclared group-kind never matches -/
theorem C16_undeclared_never_matches (c : DCfg) (o : J)
    (h : ∀ r ∈ c.resources, ¬ (r.group = apiGroup (getAPIVersion o) ∧ r.kind = getKind o)) :
    c.selMatches o = false := by
  have : c.ruleFor o = none := by
    unfold DCfg.ruleFor
    rw [List.find?_eq_none]
    intro r hr
    simp only [Bool.and_eq_true, beq_iff_eq]
    exact h r (by simpa using hr)
  simp [DCfg.selMatches, this]

/-- the right-hand side of `C16_selector_conjunction` can hold (`apiGroup` is `String.splitOn`, which the kernel cannot
    evaluate; the example only needs
    `apiGroup "apps/v1" == apiGroup "apps/v1"`) -/
theorem Ex.sel_ok :
    Ex.dc0.ruleFor Ex.parent0 = some Ex.rule0 ∧ labelPart Ex.rule0 Ex.parent0 ∧ annotationPart Ex.rule0 Ex.parent0 := by
  refine ⟨?_, by unfold labelPart; rfl, by simp [annotationPart, Ex.rule0]⟩
  have h1 : getAPIVersion Ex.parent0 = "apps/v1" := by rfl
  have h2 : getKind Ex.parent0 = "Deployment" := by rfl
  simp [DCfg.ruleFor, Ex.dc0, ParentRes.group, Ex.rule0, h1, h2]

example : Ex.dc0.selMatches Ex.parent0 = true := (C16_selector_conjunction _ _).2 ⟨_, Ex.sel_ok⟩

/-- the informer content `getChildren` starts from, for one attachment resource -/
def pool (cache : Cache) (ch : ChildRes) : List J := (cache.children.lookup ch.resource).getD []

def isMine (c : DCfg) (parent o : J) : Prop :=
  (getNamespace parent = "" ∨ getNamespace o = getNamespace parent) ∧
  (∃ r, controllerOf o = some r ∧ r.uid = getUID parent) ∧
  (annotationsOf o).lookup Generated.decoratorAnnotation = some c.name

/-- the objects one step of `getChildren` reports: `getAttachments` unfolds to the fold of
    `fun m ch => m.addGroup _ (mine c cache parent ch)` over the attachment rules -/
def mine (c : DCfg) (cache : Cache) (parent : J) (ch : ChildRes) : List J :=
  (if getNamespace parent != "" then (pool cache ch).filter (fun o => getNamespace o == getNamespace parent) else pool cache ch).filter
    (fun o =>
      (match controllerOf o with | some r => r.uid == getUID parent | none => false) &&
      (annotationsOf o).lookup Generated.decoratorAnnotation == some c.name)

theorem mem_mine (c : DCfg) (cache : Cache) (parent : J) (ch : ChildRes) (o : J) :
    o ∈ mine c cache parent ch ↔ o ∈ pool cache ch ∧ isMine c parent o := by
  unfold mine isMine
  rw [List.mem_filter]
  have hctl : (match controllerOf o with | some r => r.uid == getUID parent | none => false) = true ↔
      ∃ r, controllerOf o = some r ∧ r.uid = getUID parent := by
    cases controllerOf o <;> simp
  simp only [Bool.and_eq_true, hctl, beq_iff_eq]
  by_cases hp : getNamespace parent = ""
  · simp [hp]
  · simp only [bne_iff_ne, ne_eq, hp, not_false_eq_true, if_true, List.mem_filter, beq_iff_eq, false_or]
    constructor
    · rintro ⟨⟨h1, h2⟩, h3, h4⟩; exact ⟨h1, h2, h3, h4⟩
    · rintro ⟨h1, h2, h3, h4⟩; exact ⟨⟨h1, h2⟩, h3, h4⟩

/-- soundness: whatever `getChildren` reports (hence whatever can later be updated or deleted as an
    attachment) is in the informer of a declared attachment resource, in the parent's namespace when it
    has one, controlled by the parent (UID) and stamped with this decorator's name -/
theorem C16_attachment_filter_sound (c : DCfg) (cache : Cache) (parent o : J)
    (h : o ∈ (getAttachments c cache parent).list) :
    ∃ ch ∈ c.attachments, o ∈ pool cache ch ∧ isMine c parent o := by
  rcases mem_list_foldl_addGroup _ (mine c cache parent) o _ _ h with h | ⟨ch, hch, h⟩
  · cases h
  · exact ⟨ch, hch, (mem_mine ..).1 h⟩

/-- completeness: every object passing the filter is reported, under its own group-version-kind and
    qualified name, provided no *other* reported object has the same (gvk, qualified name)
    (within one resource the API server guarantees this; across resources it holds when distinct
    attachment rules name distinct kinds) -/
theorem C16_attachment_filter_complete (c : DCfg) (cache : Cache) (parent o : J)
    (hinj : ∀ ch ∈ c.attachments, ∀ x ∈ pool cache ch, isMine c parent x →
      gvkOf x = gvkOf o → qualifiedName x = qualifiedName o → x = o)
    (h : ∃ ch ∈ c.attachments, o ∈ pool cache ch ∧ isMine c parent o) :
    (getAttachments c cache parent).at (gvkOf o) (qualifiedName o) = some o ∧
    o ∈ (getAttachments c cache parent).list := by
  have hat : (getAttachments c cache parent).at (gvkOf o) (qualifiedName o) = some o := by
    apply at_foldl_addGroup _ (mine c cache parent)
    · intro ch hch x hx
      obtain ⟨hx1, hx2⟩ := (mem_mine ..).1 hx
      exact hinj ch hch x hx1 hx2
    · obtain ⟨ch, hch, h1, h2⟩ := h
      exact Or.inl ⟨ch, hch, (mem_mine ..).2 ⟨h1, h2⟩⟩
  exact ⟨hat, mem_list_of_at hat⟩

/-- the filter, as an equivalence -/
theorem C16_attachment_filter (c : DCfg) (cache : Cache) (parent o : J)
    (hinj : ∀ ch ∈ c.attachments, ∀ x ∈ pool cache ch, isMine c parent x →
      gvkOf x = gvkOf o → qualifiedName x = qualifiedName o → x = o) :
    o ∈ (getAttachments c cache parent).list ↔
      ∃ ch ∈ c.attachments, o ∈ (cache.children.lookup ch.resource).getD [] ∧
        (getNamespace parent = "" ∨ getNamespace o = getNamespace parent) ∧
        (∃ r, controllerOf o = some r ∧ r.uid = getUID parent) ∧
        (annotationsOf o).lookup Generated.decoratorAnnotation = some c.name :=
  ⟨C16_attachment_filter_sound c cache parent o, fun h => (C16_attachment_filter_complete c cache parent o hinj h).2⟩

namespace Ex
theorem isMine_o1 : isMine dc0 parent0 o1 :=
  ⟨Or.inr (by rfl), ⟨_, by rfl, by rfl⟩, by rfl⟩
theorem not_isMine_o2 : ¬ isMine dc0 parent0 o2 := fun h => absurd h.2.2 (by decide)
theorem not_isMine_o3 : ¬ isMine dc0 parent0 o3 := by
  rintro ⟨_, ⟨r, hr, hu⟩, _⟩
  have : controllerOf o3 = some { apiVersion := "", kind := "", name := "", uid := "u2", controller := some true, blockOwnerDeletion := none } := by
    decide +kernel
  rw [this] at hr
  cases hr
  exact absurd hu (by decide +kernel)

/-- non-vacuity of soundness and completeness: of three ConfigMaps only the one carrying both marks is reported -/
example : o1 ∈ (getAttachments dc0 cache0 parent0).list ∧
    o2 ∉ (getAttachments dc0 cache0 parent0).list ∧ o3 ∉ (getAttachments dc0 cache0 parent0).list := by
  refine ⟨?_, ?_, ?_⟩
  · refine (C16_attachment_filter_complete dc0 cache0 parent0 o1 ?_ ⟨att0, by simp [dc0], by simp [pool, cache0, att0], isMine_o1⟩).2
    intro ch hch x hx hm _ _
    simp only [dc0, List.mem_singleton] at hch
    subst hch
    simp only [pool, cache0, att0, slookup_cons, if_true, Option.getD_some, List.mem_cons, List.not_mem_nil, or_false] at hx
    rcases hx with rfl | rfl | rfl
    · rfl
    · exact absurd hm not_isMine_o2
    · exact absurd hm not_isMine_o3
  · intro h
    obtain ⟨_, _, _, hm⟩ := C16_attachment_filter_sound _ _ _ _ h
    exact not_isMine_o2 hm
  · intro h
    obtain ⟨_, _, _, hm⟩ := C16_attachment_filter_sound _ _ _ _ h
    exact not_isMine_o3 hm
end Ex

def parentStatusOf (parent : J) : Except String (Option KVs) :=
  match nestedField parent ["status"] with
  | .ok none => .ok none
  | .ok (some (.obj kvs)) => .ok (some kvs)
  | _ => .error "status is not a map"

def statusChanged (old new : Option KVs) : Bool :=
  match old, new with
  | none, none => false
  | some a, some b => !((J.obj a).eqv (.obj b))
  | _, _ => true

def newStatusOf (old : Option KVs) (resp : DecResp) : Option KVs :=
  match resp.status with | none => old | some s => some s

/-- does the answer of the hook ask for any edit of the parent? -/
def needsEdit (c : DCfg) (parent : J) (resp : DecResp) (st : Option KVs) : Bool :=
  (updateStringMap ((getLabels parent).getD []) resp.labels).2 || (updateStringMap ((getAnnotations parent).getD []) resp.annotations).2 ||
    statusChanged st (newStatusOf st resp) || (resp.finalized && hasFinalizer parent c.finalizer.name)

/-- the shape of `decoratorParentUpdate`: read the status; then nothing at all unless an edit is needed -/
theorem decoratorParentUpdate_shape (c : DCfg) (rule : ParentRes) (parent : J) (resp : DecResp) :
    ∃ writes : Option KVs → PE ParentUpd, decoratorParentUpdate c rule parent resp =
      PE.bind (PE.ofExcept (parentStatusOf parent)) (fun st =>
        if needsEdit c parent resp st then writes st else PE.pure .proceed) := ⟨_, rfl⟩

theorem C16_no_change_no_request (c : DCfg) (rule : ParentRes) (parent : J) (resp : DecResp) (st : Option KVs)
    (hst : parentStatusOf parent = .ok st)
    (hl : (updateStringMap ((getLabels parent).getD []) resp.labels).2 = false)
    (ha : (updateStringMap ((getAnnotations parent).getD []) resp.annotations).2 = false)
    (hs : statusChanged st (newStatusOf st resp) = false)
    (hf : ¬ (resp.finalized = true ∧ hasFinalizer parent c.finalizer.name = true)) :
    decoratorParentUpdate c rule parent resp = Prog.ret (.ok .proceed) := by
  have hf' : (resp.finalized && hasFinalizer parent c.finalizer.name) = false :=
    Bool.eq_false_iff.2 fun h => hf ((Bool.and_eq_true _ _).mp h)
  have hn : needsEdit c parent resp st = false := by
    unfold needsEdit
    rw [hl, ha, hs, hf']
    rfl
  obtain ⟨w, hw⟩ := decoratorParentUpdate_shape c rule parent resp
  rw [hw, hst]
  show (if needsEdit c parent resp st = true then _ else _) = _
  rw [hn]
  rfl

theorem C16_bad_status_no_request (c : DCfg) (rule : ParentRes) (parent : J) (resp : DecResp) (e : String)
    (hst : parentStatusOf parent = .error e) :
    decoratorParentUpdate c rule parent resp = PE.fail e := by
  obtain ⟨w, hw⟩ := decoratorParentUpdate_shape c rule parent resp
  rw [hw, hst]
  rfl

namespace Ex
def resp0 : DecResp := { labels := [("app", some "x"), ("gone", none)], annotations := [], status := some [("replicas", .num 1)], attachments := [], resyncAfter := 0, finalized := true }

/-- non-vacuity: the hook repeats what is already there (and asks to drop a finalizer that is absent) -/
example : decoratorParentUpdate dc0 rule0 parent0 resp0 = Prog.ret (.ok .proceed) :=
  C16_no_change_no_request dc0 rule0 parent0 resp0 (some [("replicas", .num 1)]) (by rfl) (by rfl) (by rfl) (by rfl) (by decide +kernel)
end Ex

end Mc.C16
