import Mc.Proofs.ManageLemmas
/-
  C01 - quiescence at the fixpoint (the "then goes quiet" half of the property), on the model:
  when every desired child is observed and the decision taken for it is "nothing to do", and no observed
  child is undesired, `ManageChildren` issues no request at all - for every update method, any number of
  groups and children. (Towards the fixpoint: the closed-loop passes are in C01Closed / C01Manage, the field-level
  "child is settled" theorems in C01Converge / C01Update; the whole induction over syncs is not proved, DESIGN.md
  §8.7; convergence is observed on multi-sync scenarios of the real controller, §8.2, C01 row.)
-/
namespace Mc.C01
open Prog

def Silent {α : Type} (p : Prog α) : Prop := AllCalls (fun _ => False) p

theorem silent_ret {α : Type} (p : Prog α) (h : Silent p) : ∃ a, p = .ret a := by
  cases h with
  | ret a => exact ⟨a, rfl⟩
  | call r k hr _ => exact hr.elim

/-- nothing to create or update in one group -/
def GroupFix (mks sys : List String) (children : List ChildRes) (info : KindInfo) (kind : String)
    (observed desired : List (String × J)) : Prop :=
  ∀ nd ∈ desired, ∃ obs, observed.lookup nd.1 = some obs ∧
    updateAct mks sys (getMethod children info.group kind) obs nd.2 = .none

/-- nothing to delete in one group -/
def DeleteFix (desiredNames : List String) (observed : List (String × J)) : Prop :=
  ∀ no ∈ observed, isDeleting no.2 = true ∨ desiredNames.contains no.1 = true

theorem C01_updateGroup_quiet (mks sys : List String) (children : List ChildRes) (info : KindInfo) (kind : String)
    (parentRef : OwnerRef) (observed desired : List (String × J)) (memo : Memo)
    (h : GroupFix mks sys children info kind observed desired) :
    updateGroup mks sys children none info kind parentRef observed desired memo = .ret ([], memo) := by
  rw [updateGroup_eq_collect]
  refine collect_quiet _ _ _ fun nd hnd m => ?_
  obtain ⟨obs, hobs, hact⟩ := h nd hnd
  simp only [updStep, childStep, hobs, hact, bind_ret]

theorem C01_deleteGroup_quiet (info : KindInfo) (kind : String) (desiredNames : List String)
    (observed : List (String × J)) (memo : Memo) (h : DeleteFix desiredNames observed) :
    deleteGroup info kind desiredNames observed memo = .ret ([], memo) := by
  rw [deleteGroup_eq_collect]
  refine collect_quiet _ _ _ fun no hno m => ?_
  unfold delStep deleteStep
  rcases h no hno with h1 | h2
  · rw [if_pos h1]
    rfl
  · rw [if_pos h2, ite_self]
    rfl

/-- **C01 quiescence**: at a fixpoint `ManageChildren` (dynamic apply) is silent and reports no error -/
theorem C01_manage_quiet (mks sys : List String) (children : List ChildRes) (kt : KindTable) (parentRef : OwnerRef)
    (observed desired : ObjMap) (memo : Memo)
    (hdel : ∀ g ∈ observed, ∃ info, kt.find (gvkAPIVersion g.1) g.1.kind = some info ∧
        DeleteFix ((desired.group g.1).map (·.1)) g.2)
    (hupd : ∀ g ∈ desired, ∃ info, kt.find (gvkAPIVersion g.1) g.1.kind = some info ∧
        GroupFix mks sys children info g.1.kind (observed.group g.1) g.2) :
    manageChildren mks sys children none kt parentRef observed desired memo = .ret ([], memo) := by
  have h1 := groupLoop_quiet _ _ observed ([], memo) fun g hg =>
    (hdel g hg).imp fun info h => ⟨h.1, fun m => C01_deleteGroup_quiet info g.1.kind _ g.2 m h.2⟩
  have h2 := groupLoop_quiet _ _ desired ([], memo) fun g hg =>
    (hupd g hg).imp fun info h => ⟨h.1, fun m => C01_updateGroup_quiet mks sys children info g.1.kind parentRef _ g.2 m h.2⟩
  rw [manageChildren_eq, h1, bind_ret, h2]
  rfl

/-- the decision is `.none` for every method as soon as the merged object equals the observed one -/
theorem C01_equal_is_fix (mks sys : List String) (method : String) (obs des new : J)
    (h : applyUpdate mks sys obs des = .ok new) (he : new.eqv obs = true) :
    updateAct mks sys method obs des = .none := by
  unfold updateAct
  rw [h]
  simp only []
  rw [if_pos he]

/-- server-side apply: a desired child whose applied body and observed generation are in the memo is skipped silently -/
theorem C01_ssa_quiet (fm : String) (info : KindInfo) (kind : String) (parentRef : OwnerRef) (obs des : J) (memo : Memo)
    (h : J) (g : Int) (hm : memo.lookup (memoKey info kind des) = some (h, g))
    (he : h.eqv (applyBody parentRef des) = true) (hg : g = getGeneration obs) :
    ssaOne fm info kind parentRef (some obs) des memo = .ret (none, memo) := by
  unfold ssaOne
  simp only [hm, he, hg, beq_self_eq_true, Bool.and_self, if_true]
  rfl

/-! A concrete parent at its fixpoint: the hypotheses of `C01_manage_quiet` and `C01_ssa_quiet` can be met. -/

def exInfo : KindInfo := { group := "", resource := "configmaps", namespaced := true }
def exKt : KindTable := [(("v1", "ConfigMap"), exInfo)]
def exGVK : GVK := { group := "", version := "v1", kind := "ConfigMap" }
def exRef : OwnerRef :=
  { apiVersion := "ex/v1", kind := "P", name := "p", uid := "u-p", controller := some true, blockOwnerDeletion := some true }
/-- what the hook wants -/
def exDes : J := .obj [("apiVersion", .str "v1"), ("kind", .str "ConfigMap"),
  ("metadata", .obj [("name", .str "cm"), ("namespace", .str "ns")]), ("data", .obj [("k", .str "v")])]
/-- what the API server holds after the create of `exDes` by this parent: last-applied annotation, controller reference, UID -/
def exObs : J := .obj [("apiVersion", .str "v1"), ("kind", .str "ConfigMap"),
  ("metadata", .obj [("name", .str "cm"), ("namespace", .str "ns"), ("uid", .str "u-cm"),
    ("annotations", .obj [("metacontroller.k8s.io/last-applied-configuration", exDes)]),
    ("ownerReferences", .arr [.obj [("apiVersion", .str "ex/v1"), ("kind", .str "P"), ("name", .str "p"), ("uid", .str "u-p"),
        ("controller", .bool true), ("blockOwnerDeletion", .bool true)]])]),
  ("data", .obj [("k", .str "v")])]
/-- a child that is no longer desired and already pending deletion -/
def exGone : J := .obj [("apiVersion", .str "v1"), ("kind", .str "ConfigMap"),
  ("metadata", .obj [("name", .str "gone"), ("namespace", .str "ns"), ("uid", .str "u-gone"),
    ("deletionTimestamp", .str "2024-01-01T00:00:00Z")])]

-- the merge of the desired state into the observed child gives the observed child back, so the decision is
-- `.none` under every update strategy (also those that would write a difference)
theorem ex_fix (method : String) : updateAct ["name"] ["uid"] method exObs exDes = .none := by
  have hk : (applyUpdate ["name"] ["uid"] exObs exDes).toOption.map (·.eqv exObs) = some true := by decide +kernel
  cases h : applyUpdate ["name"] ["uid"] exObs exDes with
  | error e =>
    rw [h] at hk
    cases hk
  | ok new =>
    rw [h] at hk
    exact C01_equal_is_fix _ _ _ _ _ new h (Option.some.inj hk)

example (method : String) : updateAct ["name"] ["uid"] method exObs exDes = .none := ex_fix method

-- one group, two observed children, one desired child; whatever the configured child resources / strategies
theorem ex_groupFix (children : List ChildRes) :
    GroupFix ["name"] ["uid"] children exInfo "ConfigMap" [("ns/cm", exObs), ("ns/gone", exGone)] [("ns/cm", exDes)] := by
  intro nd hnd
  cases List.mem_singleton.mp hnd
  exact ⟨exObs, rfl, ex_fix _⟩

example (children : List ChildRes) : GroupFix ["name"] ["uid"] children exInfo "ConfigMap" [("ns/cm", exObs), ("ns/gone", exGone)] [("ns/cm", exDes)] :=
  ex_groupFix children

-- the child that is not desired is already pending deletion
theorem ex_deleteFix : DeleteFix ["ns/cm"] [("ns/cm", exObs), ("ns/gone", exGone)] := by
  intro no hno
  simp only [List.mem_cons, List.not_mem_nil, or_false] at hno
  rcases hno with rfl | rfl
  · exact Or.inr (by decide +kernel)
  · exact Or.inl (by decide +kernel)

example : DeleteFix ["ns/cm"] [("ns/cm", exObs), ("ns/gone", exGone)] := ex_deleteFix

-- the hypotheses of `C01_manage_quiet` hold for this parent: nothing is sent, nothing is reported
example (children : List ChildRes) : manageChildren ["name"] ["uid"] children none exKt exRef
    [(exGVK, [("ns/cm", exObs), ("ns/gone", exGone)])] [(exGVK, [("ns/cm", exDes)])] [] = .ret ([], []) := by
  refine C01_manage_quiet _ _ _ _ _ _ _ _ ?_ ?_
  · intro g hg
    cases List.mem_singleton.mp hg
    exact ⟨exInfo, rfl, ex_deleteFix⟩
  · intro g hg
    cases List.mem_singleton.mp hg
    exact ⟨exInfo, rfl, ex_groupFix children⟩

-- server-side apply: the memo holds the body applied last time and the observed generation; nothing is sent
example (fm : String) : ssaOne fm exInfo "ConfigMap" exRef (some exObs) exDes [("/ConfigMap/ns/cm", (applyBody exRef exDes, 0))] =
    .ret (none, [("/ConfigMap/ns/cm", (applyBody exRef exDes, 0))]) :=
  C01_ssa_quiet fm exInfo "ConfigMap" exRef exObs exDes _ (applyBody exRef exDes) 0 rfl (by decide +kernel) (by decide +kernel)

end Mc.C01
