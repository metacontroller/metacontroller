import Mc.Informer
/-
  C18 - shared informers live while subscribed to; subscribers are isolated. Theorems about the state machine of
  `Mc/Informer.lean` (tied to the real factory by the informer correspondence run), for every operation sequence.
-/
namespace Mc.C18
open Mc.Inf

/-- identifiers are positions; every subscription points at an existing informer -/
def WF (s : State) : Prop :=
  (∀ (k : Nat) (i : Inst), s.insts[k]? = some i → i.id = k) ∧
  (∀ (k : Nat) (sb : Sub), s.subs[k]? = some sb → sb.id = k) ∧
  (∀ sb ∈ s.subs, sb.inst < s.insts.length)

/-- the reference-counting invariant -/
def Inv (s : State) : Prop :=
  WF s ∧
  -- an informer runs exactly while some subscription to it is open
  (∀ i ∈ s.insts, (i.running = true ↔ 0 < s.openOn i.id)) ∧
  -- at most one running informer per resource
  (∀ i ∈ s.insts, ∀ j ∈ s.insts, i.running = true → j.running = true → i.res = j.res → i.id = j.id) ∧
  -- handlers name existing subscriptions of that informer
  (∀ i ∈ s.insts, ∀ sh ∈ i.handlers, ∃ sb ∈ s.subs, sb.id = sh.1 ∧ sb.inst = i.id)

section
variable {α : Type} {key : α → Nat} {l : List α} (hpos : ∀ (k : Nat) (a : α), l[k]? = some a → key a = k)
include hpos

theorem getElem?_of_pos : ∀ a ∈ l, l[key a]? = some a := by
  intro a ha
  obtain ⟨i, hi⟩ := List.mem_iff_getElem?.1 ha
  rw [hpos i a hi]
  exact hi

theorem uniq_of_pos : ∀ a ∈ l, ∀ b ∈ l, key a = key b → a = b := by
  intro a ha b hb hab
  have h := getElem?_of_pos hpos a ha
  rw [hab, getElem?_of_pos hpos b hb] at h
  exact (Option.some.inj h).symm

theorem key_lt_of_pos : ∀ a ∈ l, key a < l.length :=
  fun a ha => (List.getElem?_eq_some_iff.1 (getElem?_of_pos hpos a ha)).1

theorem find?_of_pos (k : Nat) (a : α) (h : l[k]? = some a) : l.find? (fun x => key x == k) = some a := by
  have ha : a ∈ l := List.mem_of_getElem? h
  have hk := hpos k a h
  cases hf : l.find? (fun x => key x == k) with
  | none => simpa [hk] using List.find?_eq_none.1 hf a ha
  | some b =>
    have hbk : key b = k := by simpa using List.find?_some hf
    rw [uniq_of_pos hpos b (List.mem_of_find?_eq_some hf) a ha (hbk.trans hk.symm)]

theorem pos_append (a : α) (ha : key a = l.length) : ∀ (k : Nat) (x : α), (l ++ [a])[k]? = some x → key x = k := by
  intro k x hx
  have hlt : k < (l ++ [a]).length := (List.getElem?_eq_some_iff.1 hx).1
  rw [List.length_append, List.length_singleton] at hlt
  rw [List.getElem?_append] at hx
  split at hx
  · exact hpos k x hx
  · have hk : k = l.length := by omega
    subst hk
    simp at hx
    subst hx
    exact ha

theorem pos_map (g : α → α) (hg : ∀ x, key (g x) = key x) : ∀ (k : Nat) (x : α), (l.map g)[k]? = some x → key x = k := by
  intro k x hx
  rw [List.getElem?_map, Option.map_eq_some_iff] at hx
  obtain ⟨y, hy, rfl⟩ := hx
  rw [hg]; exact hpos k y hy

end

def openP (subs : List Sub) (k : Nat) : Prop := ∃ sb ∈ subs, sb.inst = k ∧ sb.open = true

theorem openOn_pos_iff (s : State) (k : Nat) : 0 < s.openOn k ↔ openP s.subs k := by
  unfold State.openOn openP
  rw [List.length_pos_iff_exists_mem]
  simp only [List.mem_filter, Bool.and_eq_true, beq_iff_eq]

theorem openOn_eq_zero_iff (s : State) (k : Nat) : s.openOn k = 0 ↔ ¬ openP s.subs k := by
  rw [← openOn_pos_iff]; omega

theorem openP_append (subs : List Sub) (n : Sub) (k : Nat) :
    openP (subs ++ [n]) k ↔ openP subs k ∨ (n.inst = k ∧ n.open = true) := by
  simp only [openP, List.mem_append, List.mem_singleton, or_and_right, exists_or, exists_eq_left]

theorem forall_mem_concat {α : Type} {P : α → Prop} {l : List α} {a : α} (hl : ∀ x ∈ l, P x) (ha : P a) :
    ∀ x ∈ l ++ [a], P x :=
  List.forall_mem_append.2 ⟨hl, List.forall_mem_singleton.2 ha⟩

theorem inv_init (store : List (Nat × List String)) : Inv { store := store } := by
  refine ⟨⟨?_, ?_, ?_⟩, ?_, ?_, ?_⟩
  · intro k i h; simp at h
  · intro k i h; simp at h
  · intro sb h; cases h
  · intro sb h; cases h
  · intro sb h; cases h
  · intro sb h; cases h

theorem runningInst_some {s : State} {res : Nat} {i : Inst} (h : s.runningInst res = some i) :
    i ∈ s.insts ∧ i.res = res ∧ i.running = true := by
  have hp := List.find?_some h
  simp only [Bool.and_eq_true, beq_iff_eq] at hp
  exact ⟨List.mem_of_find?_eq_some h, hp⟩

theorem runningInst_none_iff {s : State} {res : Nat} :
    s.runningInst res = none ↔ ∀ j ∈ s.insts, j.running = true → j.res ≠ res := by
  rw [State.runningInst, List.find?_eq_none]
  refine forall₂_congr fun j _ => ?_
  simp only [Bool.and_eq_true, beq_iff_eq, not_and]
  exact ⟨fun h hr he => h he hr, fun h he hr => h hr he⟩

theorem inv_subscribe_shared (s : State) (h : Inv s) (res : Nat) (i : Inst) (hr : s.runningInst res = some i) :
    Inv (step s (.subscribe res)).1 := by
  obtain ⟨him, _, hrun⟩ := runningInst_some hr
  simp only [step, hr]
  obtain ⟨⟨hi, hs, hlt⟩, h2, h3, h4⟩ := h
  simp only [openOn_pos_iff] at h2
  refine ⟨⟨hi, pos_append hs _ rfl, ?_⟩, ?_, h3, ?_⟩
  · exact forall_mem_concat hlt (key_lt_of_pos hi i him)
  · intro j hj
    rw [openOn_pos_iff, openP_append]
    constructor
    · intro hr; exact Or.inl ((h2 j hj).1 hr)
    · rintro (hp | ⟨h1, _⟩)
      · exact (h2 j hj).2 hp
      · have : i = j := uniq_of_pos hi i him j hj h1
        subst this; exact hrun
  · intro j hj sh hsh
    obtain ⟨sb, hm, h1, h2⟩ := h4 j hj sh hsh
    exact ⟨sb, List.mem_append_left _ hm, h1, h2⟩

theorem inv_subscribe_fresh (s : State) (h : Inv s) (res : Nat) (hnone : s.runningInst res = none) :
    Inv (step s (.subscribe res)).1 := by
  simp only [step, hnone]
  obtain ⟨⟨hi, hs, hlt⟩, h2, h3, h4⟩ := h
  simp only [openOn_pos_iff] at h2
  have hno := runningInst_none_iff.1 hnone
  refine ⟨⟨pos_append hi _ rfl, pos_append hs _ rfl, ?_⟩, ?_, ?_, ?_⟩
  · dsimp only
    rw [List.length_append, List.length_singleton]
    exact forall_mem_concat (fun sb hm => Nat.lt_succ_of_lt (hlt sb hm)) (Nat.lt_succ_self _)
  · refine forall_mem_concat (fun j hj => ?_) ?_
    · rw [openOn_pos_iff, openP_append]
      have hjl := key_lt_of_pos hi j hj
      constructor
      · intro hr; exact Or.inl ((h2 j hj).1 hr)
      · rintro (hp | ⟨h1, _⟩)
        · exact (h2 j hj).2 hp
        · exfalso; simp only at h1; omega
    · rw [openOn_pos_iff, openP_append]
      exact ⟨fun _ => Or.inr ⟨rfl, rfl⟩, fun _ => rfl⟩
  · refine forall_mem_concat (fun a ha => forall_mem_concat (h3 a ha) fun hra _ hab => absurd hab (hno a ha hra)) ?_
    exact forall_mem_concat (fun b hb _ hrb hab => absurd hab.symm (hno b hb hrb)) fun _ _ _ => rfl
  · refine forall_mem_concat (fun j hj sh hsh => ?_) nofun
    obtain ⟨sb, hm, h1, h2⟩ := h4 j hj sh hsh
    exact ⟨sb, List.mem_append_left _ hm, h1, h2⟩

theorem updF_proj {β : Type} (p : Inst → β) (k : Nat) (f : Inst → Inst) (hp : ∀ j, p (f j) = p j) (j : Inst) :
    p (if j.id == k then f j else j) = p j := by
  split
  · exact hp j
  · rfl

theorem mem_updInst (l : List Inst) (k : Nat) (f : Inst → Inst) (j' : Inst) (h : j' ∈ updInst l k f) :
    ∃ j ∈ l, (j.id = k ∧ j' = f j) ∨ (j.id ≠ k ∧ j' = j) := by
  unfold updInst at h
  obtain ⟨j, hj, rfl⟩ := List.mem_map.1 h
  refine ⟨j, hj, ?_⟩
  by_cases hk : j.id = k
  · left; refine ⟨hk, ?_⟩; rw [if_pos]; simpa using hk
  · right; refine ⟨hk, ?_⟩; rw [if_neg]; simpa using hk

theorem inv_updInst (s : State) (h : Inv s) (k : Nat) (f : Inst → Inst) (st : List (Nat × List String))
    (hid : ∀ j, (f j).id = j.id) (hres : ∀ j, (f j).res = j.res) (hrun : ∀ j, (f j).running = j.running)
    (hh : ∀ j, ∀ sh ∈ (f j).handlers, sh ∈ j.handlers ∨ ∃ sb ∈ s.subs, sb.id = sh.1 ∧ sb.inst = k) :
    Inv { insts := updInst s.insts k f, subs := s.subs, store := st } := by
  obtain ⟨⟨hi, hs, hlt⟩, h2, h3, h4⟩ := h
  simp only [openOn_pos_iff] at h2
  have gid := updF_proj Inst.id k f hid
  have gres := updF_proj Inst.res k f hres
  have grun := updF_proj Inst.running k f hrun
  refine ⟨⟨pos_map hi _ gid, hs, ?_⟩, ?_, ?_, ?_⟩
  · intro sb hm
    show sb.inst < (updInst s.insts k f).length
    rw [updInst, List.length_map]
    exact hlt sb hm
  · intro j' hj'
    obtain ⟨j, hj, rfl⟩ := List.mem_map.1 hj'
    rw [openOn_pos_iff, grun, gid]
    exact h2 j hj
  · intro a' ha' b' hb'
    obtain ⟨a, ha, rfl⟩ := List.mem_map.1 ha'
    obtain ⟨b, hb, rfl⟩ := List.mem_map.1 hb'
    rw [grun, grun, gres, gres, gid, gid]
    exact h3 a ha b hb
  · intro j' hj' sh hsh
    obtain ⟨j, hj, ⟨hk, rfl⟩ | ⟨_, rfl⟩⟩ := mem_updInst _ _ _ _ hj'
    · rw [hid]
      rcases hh j sh hsh with h' | ⟨sb, hsb, h1, h2⟩
      · exact h4 j hj sh h'
      · exact ⟨sb, hsb, h1, h2.trans hk.symm⟩
    · exact h4 j' hj sh hsh

/-- what `close sub` does to one subscription -/
def closeF (sub : Nat) (x : Sub) : Sub := if x.id == sub then { x with «open» := false } else x

theorem closeF_of_ne (sub : Nat) (x : Sub) (h : x.id ≠ sub) : closeF sub x = x := by
  unfold closeF; rw [if_neg]; simpa using h

theorem closeF_of_eq (sub : Nat) (x : Sub) (h : x.id = sub) : closeF sub x = { x with «open» := false } := by
  unfold closeF; rw [if_pos]; simpa using h

theorem closeF_id (sub : Nat) (x : Sub) : (closeF sub x).id = x.id := by
  unfold closeF; split <;> rfl

theorem closeF_inst (sub : Nat) (x : Sub) : (closeF sub x).inst = x.inst := by
  unfold closeF; split <;> rfl

theorem openP_close (subs : List Sub) (sub k : Nat) :
    openP (subs.map (closeF sub)) k ↔ ∃ x ∈ subs, x.id ≠ sub ∧ x.inst = k ∧ x.open = true := by
  constructor
  · rintro ⟨y, hy, h1, h2⟩
    obtain ⟨x, hx, rfl⟩ := List.mem_map.1 hy
    by_cases hxs : x.id = sub
    · rw [closeF_of_eq _ _ hxs] at h2; simp at h2
    · rw [closeF_of_ne _ _ hxs] at h1 h2; exact ⟨x, hx, hxs, h1, h2⟩
  · rintro ⟨x, hx, hxs, h⟩
    refine ⟨closeF sub x, List.mem_map_of_mem hx, ?_⟩
    rw [closeF_of_ne _ _ hxs]; exact h

theorem close_running (s : State) (h : Inv s) (sub : Nat) (sb : Sub) (hsb : sb ∈ s.subs) (hid : sb.id = sub)
    (j : Inst) (hj : j ∈ s.insts) :
    openP (s.subs.map (closeF sub)) j.id ↔
      j.running = true ∧ (j.id = sb.inst → openP (s.subs.map (closeF sub)) sb.inst) := by
  have h2 := h.2.1 j hj
  rw [openOn_pos_iff] at h2
  constructor
  · intro hp
    obtain ⟨x, hx, _, h1, ho⟩ := (openP_close _ _ _).1 hp
    exact ⟨h2.2 ⟨x, hx, h1, ho⟩, fun e => e ▸ hp⟩
  · rintro ⟨hr, hsame⟩
    obtain ⟨x, hx, h1, ho⟩ := h2.1 hr
    by_cases hxs : x.id = sub
    · have : x = sb := uniq_of_pos h.1.2.1 x hx sb hsb (by omega)
      subst this
      rw [← h1]
      exact hsame h1.symm
    · exact (openP_close _ _ _).2 ⟨x, hx, hxs, h1, ho⟩

theorem inv_close_gen (s : State) (h : Inv s) (sub : Nat) (sb : Sub) (hsb : sb ∈ s.subs) (hsub : sb.id = sub) (g : Inst → Inst)
    (hid : ∀ j, (g j).id = j.id) (hres : ∀ j, (g j).res = j.res) (hh : ∀ j, (g j).handlers = j.handlers)
    (hrun : ∀ j ∈ s.insts, ((g j).running = true ↔
      j.running = true ∧ (j.id = sb.inst → openP (s.subs.map (closeF sub)) sb.inst))) :
    Inv { insts := s.insts.map g, subs := s.subs.map (closeF sub), store := s.store } := by
  have hR := close_running s h sub sb hsb hsub
  obtain ⟨⟨hi, hs, hlt⟩, h2, h3, h4⟩ := h
  refine ⟨⟨pos_map hi g hid, pos_map hs _ (closeF_id sub), ?_⟩, ?_, ?_, ?_⟩
  · intro y hy
    obtain ⟨x, hx, rfl⟩ := List.mem_map.1 hy
    show (closeF sub x).inst < (s.insts.map g).length
    rw [List.length_map, closeF_inst]; exact hlt x hx
  · intro j' hj'
    obtain ⟨j, hj, rfl⟩ := List.mem_map.1 hj'
    rw [openOn_pos_iff, hid, hR j hj]; exact hrun j hj
  · intro a' ha' b' hb'
    obtain ⟨a, ha, rfl⟩ := List.mem_map.1 ha'
    obtain ⟨b, hb, rfl⟩ := List.mem_map.1 hb'
    intro hra hrb
    rw [hres, hres, hid, hid]
    exact h3 a ha b hb ((hrun a ha).1 hra).1 ((hrun b hb).1 hrb).1
  · intro j' hj' sh hsh
    obtain ⟨j, hj, rfl⟩ := List.mem_map.1 hj'
    rw [hh] at hsh
    obtain ⟨x, hx, h1, h2x⟩ := h4 j hj sh hsh
    refine ⟨closeF sub x, List.mem_map.2 ⟨x, hx, rfl⟩, ?_, ?_⟩
    · rw [closeF_id]; exact h1
    · rw [closeF_inst, hid]; exact h2x

theorem find?_sub_some (s : State) (sub : Nat) (sb : Sub) (hf : s.subs.find? (·.id == sub) = some sb) :
    sb ∈ s.subs ∧ sb.id = sub :=
  ⟨List.mem_of_find?_eq_some hf, by simpa using List.find?_some hf⟩

theorem step_close_none (s : State) (sub : Nat) (hf : s.subs.find? (·.id == sub) = none) :
    step s (.close sub) = (s, {}) := by
  simp only [step, hf]

theorem step_close_closed (s : State) (sub : Nat) (sb : Sub) (hf : s.subs.find? (·.id == sub) = some sb)
    (ho : sb.open = false) : step s (.close sub) = (s, {}) := by
  simp only [step, hf, ho]; rfl

theorem step_close_keep (s : State) (sub : Nat) (sb : Sub) (hf : s.subs.find? (·.id == sub) = some sb)
    (ho : sb.open = true) (hp : openP (s.subs.map (closeF sub)) sb.inst) :
    step s (.close sub) = ({ s with subs := s.subs.map (closeF sub) }, {}) := by
  have hz : (({ s with subs := s.subs.map (closeF sub) } : State).openOn sb.inst == 0) = false := by
    rw [beq_eq_false_iff_ne, Ne, openOn_eq_zero_iff]; exact not_not_intro hp
  unfold closeF at hz
  simp only [step, hf, ho, hz]
  rfl

theorem step_close_stop (s : State) (sub : Nat) (sb : Sub) (hf : s.subs.find? (·.id == sub) = some sb)
    (ho : sb.open = true) (hp : ¬ openP (s.subs.map (closeF sub)) sb.inst) :
    step s (.close sub) =
      ({ insts := updInst s.insts sb.inst (fun i => { i with running := false }),
         subs := s.subs.map (closeF sub), store := s.store },
       { stopped := (s.insts.find? (·.id == sb.inst)).map (·.res) }) := by
  have hz : (({ s with subs := s.subs.map (closeF sub) } : State).openOn sb.inst == 0) = true := by
    rw [beq_iff_eq, openOn_eq_zero_iff]; exact hp
  unfold closeF at hz
  simp only [step, hf, ho, hz]
  rfl

theorem inv_close (s : State) (h : Inv s) (sub : Nat) : Inv (step s (.close sub)).1 := by
  cases hf : s.subs.find? (·.id == sub) with
  | none => rw [step_close_none s sub hf]; exact h
  | some sb =>
    obtain ⟨hsb, hid⟩ := find?_sub_some s sub sb hf
    cases ho : sb.open with
    | false => rw [step_close_closed s sub sb hf ho]; exact h
    | true =>
      by_cases hp : openP (s.subs.map (closeF sub)) sb.inst
      · rw [step_close_keep s sub sb hf ho hp]
        have := inv_close_gen s h sub sb hsb hid id (fun _ => rfl) (fun _ => rfl) (fun _ => rfl)
          (fun j _ => ⟨fun hr => ⟨hr, fun _ => hp⟩, And.left⟩)
        rwa [List.map_id] at this
      · rw [step_close_stop s sub sb hf ho hp]
        refine inv_close_gen s h sub sb hsb hid (fun i => if i.id == sb.inst then { i with running := false } else i)
          (updF_proj Inst.id _ _ (fun _ => rfl)) (updF_proj Inst.res _ _ (fun _ => rfl))
          (updF_proj Inst.handlers _ _ (fun _ => rfl)) (fun j _ => ?_)
        by_cases hk : j.id = sb.inst
        · rw [if_pos (by simpa using hk)]
          exact ⟨nofun, fun h' => absurd (h'.2 hk) hp⟩
        · rw [if_neg (by simpa using hk)]
          exact ⟨fun hr => ⟨hr, fun e => absurd e hk⟩, And.left⟩

theorem instOfSub_some (s : State) (sub : Nat) (i : Inst) (h : s.instOfSub sub = some i) :
    ∃ sb ∈ s.subs, sb.id = sub ∧ i.id = sb.inst := by
  unfold State.instOfSub at h
  cases hf : s.subs.find? (·.id == sub) with
  | none => rw [hf] at h; simp at h
  | some sb =>
    rw [hf] at h
    have h' : s.insts.find? (·.id == sb.inst) = some i := h
    obtain ⟨hsb, hid⟩ := find?_sub_some s sub sb hf
    exact ⟨sb, hsb, hid, by simpa using List.find?_some h'⟩

theorem instOfSub_of_mem (s : State) (h : WF s) (sb : Sub) (hsb : sb ∈ s.subs) :
    ∃ i, s.insts[sb.inst]? = some i ∧ s.instOfSub sb.id = some i := by
  obtain ⟨hi, hs, hlt⟩ := h
  have hl := hlt sb hsb
  refine ⟨s.insts[sb.inst], List.getElem?_eq_getElem hl, ?_⟩
  unfold State.instOfSub
  rw [find?_of_pos hs sb.id sb (getElem?_of_pos hs sb hsb)]
  show s.insts.find? (·.id == sb.inst) = _
  exact find?_of_pos hi sb.inst _ (List.getElem?_eq_getElem hl)

theorem inv_addHandler (s : State) (h : Inv s) (sub hd : Nat) : Inv (step s (.addHandler sub hd)).1 := by
  cases hi : s.instOfSub sub with
  | none => simp only [step, hi]; exact h
  | some i =>
    simp only [step, hi]
    obtain ⟨sb, hsb, hid, hii⟩ := instOfSub_some s sub i hi
    refine inv_updInst s h i.id _ s.store (fun _ => rfl) (fun _ => rfl) (fun _ => rfl) (fun j sh hsh => ?_)
    rcases List.mem_append.1 hsh with hsh | hsh
    · exact .inl hsh
    · rw [List.mem_singleton.1 hsh]
      exact .inr ⟨sb, hsb, hid, hii.symm⟩

theorem inv_removeHandlers (s : State) (h : Inv s) (sub : Nat) : Inv (step s (.removeHandlers sub)).1 := by
  cases hi : s.instOfSub sub with
  | none => simp only [step, hi]; exact h
  | some i =>
    simp only [step, hi]
    exact inv_updInst s h i.id _ s.store (fun _ => rfl) (fun _ => rfl) (fun _ => rfl)
      (fun j sh hsh => .inl (List.mem_filter.1 hsh).1)

theorem inv_event (s : State) (h : Inv s) (res : Nat) (typ name : String) : Inv (step s (.event res typ name)).1 := by
  cases hr : s.runningInst res with
  | none => simp only [step, hr]; exact h
  | some i =>
    simp only [step, hr]
    exact inv_updInst s h i.id _ _ (fun _ => rfl) (fun _ => rfl) (fun _ => rfl) (fun j sh hsh => .inl hsh)

theorem inv_step (s : State) (op : Op) (h : Inv s) : Inv (step s op).1 := by
  cases op with
  | subscribe res =>
    cases hr : s.runningInst res with
    | some i => exact inv_subscribe_shared s h res i hr
    | none => exact inv_subscribe_fresh s h res hr
  | close sub => exact inv_close s h sub
  | addHandler sub hd => exact inv_addHandler s h sub hd
  | removeHandlers sub => exact inv_removeHandlers s h sub
  | event res typ name => exact inv_event s h res typ name

theorem run_cons_fst (s : State) (op : Op) (rest : List Op) : (run s (op :: rest)).1 = (run (step s op).1 rest).1 := rfl

theorem inv_run (ops : List Op) : ∀ (s : State), Inv s → Inv (run s ops).1 := by
  induction ops with
  | nil => intro s h; exact h
  | cons op rest ih => intro s h; rw [run_cons_fst]; exact ih _ (inv_step s op h)

/-- the invariant holds after every operation sequence -/
theorem C18_invariant (store : List (Nat × List String)) (ops : List Op) : Inv (run { store := store } ops).1 :=
  inv_run ops _ (inv_init store)

/-- reference count = number of open subscriptions, and it is positive for everything listed -/
theorem C18_refcount (s : State) (h : Inv s) :
    ∀ rc ∈ s.refCounts, 0 < rc.2 ∧ ∃ i ∈ s.insts, i.running = true ∧ i.res = rc.1 ∧ rc.2 = s.openOn i.id := by
  intro rc hrc
  unfold State.refCounts at hrc
  obtain ⟨i, hi, rfl⟩ := List.mem_map.1 hrc
  obtain ⟨him, hr⟩ := List.mem_filter.1 hi
  exact ⟨(h.2.1 i him).1 hr, i, him, hr, rfl, rfl⟩

/-- a first subscription starts a fresh informer: new identity, no handlers, cache = what the server holds -/
theorem C18_fresh_start (s : State) (res : Nat) (h : s.runningInst res = none) :
    (step s (.subscribe res)).2.started = some res ∧
    ∃ i, (step s (.subscribe res)).1.insts = s.insts ++ [i] ∧ i.id = s.insts.length ∧ i.running = true ∧
      i.handlers = [] ∧ i.cache = s.contents res := by
  simp only [step, h]
  exact ⟨trivial, _, rfl, rfl, rfl, rfl, rfl⟩

/-- a further subscription shares the running informer: nothing starts -/
theorem C18_share (s : State) (res : Nat) (i : Inst) (h : s.runningInst res = some i) :
    (step s (.subscribe res)).2.started = none ∧ (step s (.subscribe res)).1.insts = s.insts ∧
    (step s (.subscribe res)).1.subs = s.subs ++ [{ id := s.subs.length, inst := i.id, «open» := true }] := by
  simp only [step, h]
  exact ⟨trivial, trivial, trivial⟩

/-- closing one of several open subscriptions stops nothing -/
theorem C18_close_not_last (s : State) (h : Inv s) (sub : Nat) (sb : Sub) (hs : s.subs[sub]? = some sb) (ho : sb.open = true)
    (other : Sub) (hm : other ∈ s.subs) (hne : other.id ≠ sub) (hoi : other.inst = sb.inst) (hoo : other.open = true) :
    (step s (.close sub)).2.stopped = none ∧ (step s (.close sub)).1.insts = s.insts := by
  have hf : s.subs.find? (·.id == sub) = some sb := find?_of_pos h.1.2.1 sub sb hs
  have hp : openP (s.subs.map (closeF sub)) sb.inst := (openP_close _ _ _).2 ⟨other, hm, hne, hoi, hoo⟩
  rw [step_close_keep s sub sb hf ho hp]
  exact ⟨rfl, rfl⟩

/-- closing the last open subscription stops the informer -/
theorem C18_close_last (s : State) (h : Inv s) (sub : Nat) (sb : Sub) (hs : s.subs[sub]? = some sb) (ho : sb.open = true)
    (hl : ∀ other ∈ s.subs, other.inst = sb.inst → other.open = true → other.id = sub) :
    ∃ i, s.insts[sb.inst]? = some i ∧ (step s (.close sub)).2.stopped = some i.res ∧
      (step s (.close sub)).1.runningInst i.res = none := by
  have hf : s.subs.find? (·.id == sub) = some sb := find?_of_pos h.1.2.1 sub sb hs
  obtain ⟨hsb, hid⟩ := find?_sub_some s sub sb hf
  have hp : ¬ openP (s.subs.map (closeF sub)) sb.inst := by
    intro hp
    obtain ⟨x, hx, hxs, h1, h2⟩ := (openP_close _ _ _).1 hp
    exact hxs (hl x hx h1 h2)
  obtain ⟨⟨hi, hss, hlt⟩, h2, h3, h4⟩ := h
  simp only [openOn_pos_iff] at h2
  obtain ⟨i, hget⟩ : ∃ i, s.insts[sb.inst]? = some i := ⟨_, List.getElem?_eq_getElem (hlt sb hsb)⟩
  have him : i ∈ s.insts := List.mem_of_getElem? hget
  have hiid : i.id = sb.inst := hi _ _ hget
  have hirun : i.running = true := (h2 _ him).2 ⟨sb, hsb, hiid.symm, ho⟩
  refine ⟨i, hget, ?_, ?_⟩
  · rw [step_close_stop s sub sb hf ho hp, find?_of_pos hi sb.inst i hget]; rfl
  · rw [step_close_stop s sub sb hf ho hp]
    refine runningInst_none_iff.2 fun j' hj' hr' hres => ?_
    obtain ⟨j, hj, ⟨hk, he⟩ | ⟨hk, he⟩⟩ := mem_updInst _ _ _ _ hj'
    · rw [he] at hr'; cases hr'
    · rw [he] at hr' hres; exact hk ((h3 j hj _ him hr' hirun hres).trans hiid)

/-- a new handler is replayed everything cached, as resync notifications, and nothing else -/
theorem C18_replay_on_add (s : State) (sub hd : Nat) (i : Inst) (h : s.instOfSub sub = some i) :
    (step s (.addHandler sub hd)).2.deliveries = i.cache.map (fun n => (hd, "resync", n)) := by
  simp only [step, h]

/-- an event reaches exactly the handlers registered on the running informer of its resource, once each -/
theorem C18_event_delivery (s : State) (res : Nat) (typ name : String) :
    (step s (.event res typ name)).2.deliveries =
      match s.runningInst res with
      | some i => i.handlers.map (fun sh => (sh.2, (if typ == "create" then "add" else typ), name))
      | none => [] := by
  simp only [step]
  cases h : s.runningInst res <;> rfl

/-- after `removeHandlers sub` no informer holds a handler of `sub` -/
theorem C18_silent_after_remove (s : State) (h : Inv s) (sub : Nat) :
    ∀ i ∈ (step s (.removeHandlers sub)).1.insts, ∀ sh ∈ i.handlers, sh.1 ≠ sub := by
  cases hi : s.instOfSub sub with
  | none =>
    simp only [step, hi]
    intro j hj sh hsh hsub
    obtain ⟨sb, hsb, hid, _⟩ := h.2.2.2 j hj sh hsh
    obtain ⟨i, _, hio⟩ := instOfSub_of_mem s h.1 sb hsb
    rw [hid, hsub, hi] at hio
    cases hio
  | some i =>
    simp only [step, hi]
    obtain ⟨sb0, hsb0, hid0, hii⟩ := instOfSub_some s sub i hi
    intro j' hj' sh hsh hsub
    obtain ⟨j, hj, ⟨hk, he⟩ | ⟨hk, he⟩⟩ := mem_updInst _ _ _ _ hj'
    · rw [he] at hsh
      have := (List.mem_filter.1 hsh).2
      simp [hsub] at this
    · rw [he] at hsh
      obtain ⟨sb, hsb, hid, hinst⟩ := h.2.2.2 j hj sh hsh
      have : sb = sb0 := uniq_of_pos h.1.2.1 sb hsb sb0 hsb0 (by omega)
      subst this
      exact hk (by omega)

theorem map_updInst {β : Type} (p : Inst → β) (l : List Inst) (k : Nat) (f : Inst → Inst) (hp : ∀ j, p (f j) = p j) :
    (updInst l k f).map p = l.map p := by
  unfold updInst
  rw [List.map_map]
  exact List.map_congr_left fun j _ => updF_proj p k f hp j

-- (`Inv s` is kept in the statement for uniformity; the proof does not need it)
set_option linter.unusedVariables false in
/-- isolation: whatever one subscription does (add a handler, remove its handlers, close), the handlers other
    subscriptions registered stay exactly as they were, on every informer -/
theorem C18_isolation (s : State) (h : Inv s) (sub : Nat) (op : Op)
    (hop : op = .close sub ∨ op = .removeHandlers sub ∨ ∃ hd, op = .addHandler sub hd) :
    ((step s op).1.insts.map (fun i => i.handlers.filter (·.1 != sub))) = (s.insts.map (fun i => i.handlers.filter (·.1 != sub))) := by
  rcases hop with rfl | rfl | ⟨hd, rfl⟩
  · cases hf : s.subs.find? (·.id == sub) with
    | none => rw [step_close_none s sub hf]
    | some sb =>
      cases ho : sb.open with
      | false => rw [step_close_closed s sub sb hf ho]
      | true =>
        by_cases hp : openP (s.subs.map (closeF sub)) sb.inst
        · rw [step_close_keep s sub sb hf ho hp]
        · rw [step_close_stop s sub sb hf ho hp]
          exact map_updInst _ _ _ _ (fun _ => rfl)
  · cases hi : s.instOfSub sub with
    | none => simp only [step, hi]
    | some i =>
      simp only [step, hi]
      refine map_updInst _ _ _ _ (fun j => ?_)
      show (j.handlers.filter (·.1 != sub)).filter (·.1 != sub) = _
      rw [List.filter_filter]
      simp
  · cases hi : s.instOfSub sub with
    | none => simp only [step, hi]
    | some i =>
      simp only [step, hi]
      refine map_updInst _ _ _ _ (fun j => ?_)
      show (j.handlers ++ [(sub, hd)]).filter (·.1 != sub) = _
      rw [List.filter_append]
      simp

/-! One concrete run, checked by evaluation in the kernel. -/
section Example

def exState : State := { store := [(0, ["x"])] }

def exOps : List Op :=
  [.subscribe 0, .addHandler 0 7, .subscribe 0, .event 0 "create" "a", .close 0, .removeHandlers 0,
   .event 0 "update" "a", .close 1, .subscribe 0]

/-- first subscribe starts the informer, the second subscribe starts nothing, the last one starts a fresh informer -/
example : (run exState exOps).2.map (·.started) = [some 0, none, none, none, none, none, none, none, some 0] := by decide +kernel

/-- `close 0` (one of two open subscriptions) stops nothing, `close 1` (the last one) stops the informer of resource 0 -/
example : (run exState exOps).2.map (·.stopped) = [none, none, none, none, none, none, none, some 0, none] := by decide +kernel

/-- handler 7 gets the replay of `x`, then the event on `a`; after `removeHandlers 0` the update reaches nobody -/
example : (run exState exOps).2.map (·.deliveries) =
    [[], [(7, "resync", "x")], [], [(7, "add", "a")], [], [], [], [], []] := by decide +kernel

/-- final state: informer 0 stopped, a fresh informer 1 (no handlers, cache = server contents) runs for the last subscription -/
example : (run exState exOps).1.insts =
    [{ id := 0, res := 0, running := false, cache := ["x", "a"], handlers := [] },
     { id := 1, res := 0, running := true, cache := ["x", "a"], handlers := [] }] := by decide +kernel

example : (run exState exOps).1.subs =
    [{ id := 0, inst := 0, «open» := false }, { id := 1, inst := 0, «open» := false }, { id := 2, inst := 1, «open» := true }] := by decide +kernel

example : (run exState exOps).1.refCounts = [(0, 1)] := by decide +kernel

/-- the hypotheses of the conditional theorems are met along this run: before `close 0` two subscriptions are open on informer 0 -/
example : (run exState (exOps.take 4)).1.openOn 0 = 2 := by decide +kernel

/-- handler 7 is registered by subscription 0 when the create event arrives -/
example : ((run exState (exOps.take 3)).1.runningInst 0).map (·.handlers) = some [(0, 7)] := by decide +kernel

end Example

end Mc.C18
