import Mc.Props.C02Sem
import Mc.Proofs.ManageLemmas
/-
  C01, closed loop (set level): what one fault-free pass of the delete loop and of the create loop of
  `ManageChildren` leaves in the store, in a world where nobody else writes meanwhile and the cache is fresh.
  The programs are run with `Prog.runT` against `worldStep` (Lean API model + webhook function).
-/
namespace Mc
namespace C01
open Api C02

variable (hook : String → J → Resp)

abbrev W := worldStep hook

abbrev tgtOf (info : KindInfo) (o : J) : Target :=
  targetOf info.group info.resource info.namespaced (getNamespace o) (getName o)

theorem isDeleting_iff (o : J) : isDeleting o = (mstr o "deletionTimestamp" != "") := by
  unfold isDeleting; rw [mstr_eq_strAt]

/-- a `collect` whose steps each see and touch only what is stored under their own element's key, the keys pairwise
    distinct: what holds under an element's key before (`Pre`) is met by its step, what its step leaves there (`Post`)
    stays; no step reports an error -/
theorem runT_collect {α : Type} (key : α → Target) (step : α → Memo → Prog (Option String × Memo))
    (Pre Post : α → Option ResDef → Option J → Prop)
    (hstep : ∀ x m s, Pre x (s.defOf (key x)) (s.find (key x)) →
      let r := Prog.runT (W hook) (step x m) s
      r.1.1 = none ∧ Post x (s.defOf (key x)) (r.2.find (key x)) ∧
      (∀ t, t ≠ key x → r.2.find t = s.find t) ∧ ∀ t, r.2.defOf t = s.defOf t) :
    ∀ (xs : List α) (memo : Memo) (s : State),
      (∀ x ∈ xs, Pre x (s.defOf (key x)) (s.find (key x))) → (xs.map key).Nodup →
      let r := Prog.runT (W hook) (collect step xs memo) s
      r.1.1 = [] ∧ (∀ x ∈ xs, Post x (s.defOf (key x)) (r.2.find (key x))) ∧
      (∀ t, (∀ x ∈ xs, key x ≠ t) → r.2.find t = s.find t) ∧ ∀ t, r.2.defOf t = s.defOf t := by
  intro xs
  induction xs with
  | nil =>
    intro memo s _ _
    refine ⟨rfl, ?_, fun t _ => rfl, fun t => rfl⟩
    intro x h
    cases h
  | cons x tl ih =>
    intro memo s hpre hnd
    rw [List.map_cons, List.nodup_cons] at hnd
    obtain ⟨he, hpost, hframe, hdefs⟩ := ih memo s (fun y h => hpre y (List.mem_cons_of_mem _ h)) hnd.2
    have hhead : ∀ y ∈ tl, key y ≠ key x := fun y hy e => hnd.1 (List.mem_map.mpr ⟨y, hy, e⟩)
    simp only [collect, Prog.runT_bind, Prog.runT]
    generalize Prog.runT (W hook) (collect step tl memo) s = r1 at he hpost hframe hdefs
    have hpx := hpre x (List.mem_cons_self ..)
    rw [← hframe _ hhead, ← hdefs] at hpx
    obtain ⟨e2, p2, f2, d2⟩ := hstep x r1.1.2 r1.2 hpx
    refine ⟨by rw [e2, he]; rfl, ?_, ?_, fun t => (d2 t).trans (hdefs t)⟩
    · intro y hy
      rcases List.mem_cons.mp hy with rfl | hy
      · rw [← hdefs]
        exact p2
      · rw [f2 _ (hhead y hy)]
        exact hpost y hy
    · intro t ht
      rw [f2 t (fun e => ht x (List.mem_cons_self ..) e.symm)]
      exact hframe t (fun y hy => ht y (List.mem_cons_of_mem _ hy))

/-- a delete conditioned on the UID the live object has, when the resource is known: the object is gone, or
    (finalizers) marked for deletion; the answer is a success -/
theorem delete_live (s : State) (t : Target) (obj : J) (d : ResDef) (hd : s.defOf t = some d) (hf : s.find t = some obj)
    (hu : mstr obj "uid" ≠ "") :
    let out := (s.request .delete t .null (deleteOpts (getUID obj))).1
    out.ok = true ∧ (out.post = none ∨ ∃ o', out.post = some o' ∧ mstr o' "deletionTimestamp" ≠ "") := by
  simp only [State.request, hd, hf, handle, Api.delete, preFails_deleteOpts obj hu, Bool.false_eq_true, if_false]
  split
  · split
    · refine ⟨rfl, .inr ⟨_, rfl, ?_⟩⟩
      rw [mstr_setMeta_other _ _ _ _ (by decide), mstr_setMeta_same]
      exact timeTok_ne_empty _
    · rename_i hdel
      refine ⟨rfl, .inr ⟨obj, rfl, ?_⟩⟩
      simpa using hdel
  · exact ⟨rfl, .inl rfl⟩

/-- what the delete loop promises about one observed child -/
def Settled (desiredNames : List String) (info : KindInfo) (s' : State) (no : String × J) : Prop :=
  if isDeleting no.2 || desiredNames.contains no.1 then s'.find (tgtOf info no.2) = some no.2
  else s'.find (tgtOf info no.2) = none ∨ ∃ o', s'.find (tgtOf info no.2) = some o' ∧ mstr o' "deletionTimestamp" ≠ ""

/-- **C01 (closed loop), delete side**: from a fresh cache (every observed child is what the store holds under its
    key), with nobody else writing, one pass of `deleteChildren` over a group reports no error, leaves every child
    that is desired or already pending deletion exactly as it was, removes every other one (or marks it for
    deletion when finalizers hold it), and touches nothing else in the store -/
theorem deleteGroup_run (info : KindInfo) (kind : String) (desiredNames : List String) :
    ∀ (objs : List (String × J)) (memo : Memo) (s : State),
      (∀ no ∈ objs, (s.defOf (tgtOf info no.2)).isSome) →
      (∀ no ∈ objs, s.find (tgtOf info no.2) = some no.2) →
      (∀ no ∈ objs, mstr no.2 "uid" ≠ "") →
      (objs.map (fun no => tgtOf info no.2)).Nodup →
      let r := Prog.runT (W hook) (deleteGroup info kind desiredNames objs memo) s
      r.1.1 = [] ∧ (∀ no ∈ objs, Settled desiredNames info r.2 no) ∧
      (∀ t, (∀ no ∈ objs, tgtOf info no.2 ≠ t) → r.2.find t = s.find t) ∧
      (∀ t, r.2.defOf t = s.defOf t) := by
  intro objs memo s hdef hfresh huid hnd
  rw [deleteGroup_eq_collect]
  -- elaborated without the expected type, the hypotheses supplied afterwards: finding `Pre` / `Post` from the goal is slow
  refine (runT_collect hook (fun no => tgtOf info no.2) (delStep info kind desiredNames)
    (fun no d o => d.isSome ∧ o = some no.2 ∧ mstr no.2 "uid" ≠ "")
    (fun no _ o => if isDeleting no.2 || desiredNames.contains no.1 then o = some no.2
      else o = none ∨ ∃ o', o = some o' ∧ mstr o' "deletionTimestamp" ≠ "")
    ?_ objs memo s ?hyps hnd :)
  case hyps => exact fun no h => ⟨hdef no h, hfresh no h, huid no h⟩
  intro no m s ⟨hd, hf, hu⟩
  simp only [delStep, deleteStep]
  by_cases hdel : isDeleting no.2 = true
  · simp only [hdel, if_true, Bool.true_or]
    exact ⟨rfl, hf, fun _ _ => rfl, fun _ => rfl⟩
  by_cases hdes : desiredNames.contains no.1 = true
  · simp only [hdel, hdes, if_true, Bool.or_true, Bool.false_eq_true, if_false]
    exact ⟨rfl, hf, fun _ _ => rfl, fun _ => rfl⟩
  obtain ⟨d, hd⟩ := Option.isSome_iff_exists.mp hd
  obtain ⟨hok, hpost⟩ := delete_live s (tgtOf info no.2) no.2 d hd hf hu
  simp only [hdel, hdes, Bool.false_eq_true, if_false, Bool.or_self, Prog.bind, Prog.runT, W, worldStep, toResp_of_ok hok]
  refine ⟨rfl, ?_, fun t ht => by rw [request_find, if_neg ht], fun t => request_defOf ..⟩
  rw [request_find, if_pos rfl]
  exact hpost

/-- a create of a well-formed body under a free name of a known resource is accepted and stores `created …` -/
theorem create_free (s : State) (t : Target) (body : J) (d : ResDef) (hd : s.defOf t = some d) (hf : s.find t = none)
    (hb : body.isNull = false) (hn : (t.name == "") = false) (hc : nControllerRefs body ≤ 1) :
    (s.request .create t body .null).1.ok = true ∧
    (s.request .create t body .null).2.find t = some (created d t body s.fresh false) := by
  have hc' : ¬ nControllerRefs body > 1 := by omega
  rw [request_find, if_pos rfl]
  simp [State.request, hd, hf, handle, Api.create, hb, hn, hc', Out.ok]

/-- **C01 (closed loop), create side**: nothing of this kind is owned yet, the desired names are free and nobody else
    writes: one pass of `updateChildren` over a group creates every desired child - each born with the owner
    references of `createBody`, i.e. the controller reference to the parent - reports no error and touches nothing else -/
theorem createGroup_run (mks sys : List String) (children : List ChildRes) (info : KindInfo) (kind : String) (parentRef : OwnerRef) :
    ∀ (desired : List (String × J)) (memo : Memo) (s : State),
      (∀ nd ∈ desired, (s.defOf (tgtOf info nd.2)).isSome) →
      (∀ nd ∈ desired, s.find (tgtOf info nd.2) = none) →
      (∀ nd ∈ desired, (createBody parentRef nd.2).isNull = false ∧ (getName nd.2 == "") = false ∧
          nControllerRefs (createBody parentRef nd.2) ≤ 1) →
      (desired.map (fun nd => tgtOf info nd.2)).Nodup →
      let r := Prog.runT (W hook) (updateGroup mks sys children none info kind parentRef [] desired memo) s
      r.1.1 = [] ∧
      (∀ nd ∈ desired, ∃ d f, s.defOf (tgtOf info nd.2) = some d ∧
          r.2.find (tgtOf info nd.2) = some (created d (tgtOf info nd.2) (createBody parentRef nd.2) f false)) ∧
      (∀ t, (∀ nd ∈ desired, tgtOf info nd.2 ≠ t) → r.2.find t = s.find t) ∧
      (∀ t, r.2.defOf t = s.defOf t) := by
  intro desired memo s hdef hfree hwf hnd
  rw [updateGroup_eq_collect]
  refine (runT_collect hook (fun nd => tgtOf info nd.2) (updStep mks sys children none info kind parentRef [])
    (fun nd d o => d.isSome ∧ o = none ∧ (createBody parentRef nd.2).isNull = false ∧ (getName nd.2 == "") = false ∧
      nControllerRefs (createBody parentRef nd.2) ≤ 1)
    (fun nd d o => ∃ d' f, d = some d' ∧ o = some (created d' (tgtOf info nd.2) (createBody parentRef nd.2) f false))
    ?_ desired memo s ?hyps hnd :)
  case hyps => exact fun nd h => ⟨hdef nd h, hfree nd h, hwf nd h⟩
  intro nd m s ⟨hd, hf, hb, hn, hc⟩
  obtain ⟨d, hd⟩ := Option.isSome_iff_exists.mp hd
  obtain ⟨hok, ho⟩ := create_free s (tgtOf info nd.2) (createBody parentRef nd.2) d hd hf hb hn hc
  simp only [updStep, childStep, List.lookup, Prog.bind, Prog.runT, W, worldStep, toResp_of_ok hok]
  exact ⟨rfl, ⟨d, s.fresh, hd, ho⟩, fun t ht => by rw [request_find, if_neg ht], fun t => request_defOf ..⟩

section Examples
def exInfo' : KindInfo := { group := "", resource := "configmaps", namespaced := true }
def exRef' : OwnerRef := { apiVersion := "ctl.example.com/v1", kind := "Thing", name := "p1", uid := "uid-9", controller := some true, blockOwnerDeletion := some true }
def exDes' (n : String) : J := .obj [("apiVersion", .str "v1"), ("kind", .str "ConfigMap"),
  ("metadata", .obj [("name", .str n), ("namespace", .str "ns1")]), ("data", .obj [("image", .str "v1")])]
def exS0 : State := emptyState [{ group := "", resource := "configmaps", namespaced := true, hasStatus := false }]
def exDesired : List (String × J) := [("a", exDes' "a"), ("b", exDes' "b")]

-- the hypotheses of `createGroup_run` hold for two desired ConfigMaps on an empty store
example : (∀ nd ∈ exDesired, (exS0.defOf (tgtOf exInfo' nd.2)).isSome) ∧
    (∀ nd ∈ exDesired, (createBody exRef' nd.2).isNull = false ∧ (getName nd.2 == "") = false ∧ nControllerRefs (createBody exRef' nd.2) ≤ 1) ∧
    (exDesired.map (fun nd => tgtOf exInfo' nd.2)).Nodup := by decide +kernel

/-- the store after the create pass -/
def exS1 : State := (Prog.runT (worldStep (fun _ _ => .hookErr "none")) (updateGroup ["name"] ["uid"] [] none exInfo' "ConfigMap" exRef' [] exDesired []) exS0).2
example : ((exS1.find (tgtOf exInfo' (exDes' "a"))).isSome && (exS1.find (tgtOf exInfo' (exDes' "b"))).isSome) = true := by decide +kernel
/-- what a fresh cache holds then -/
def exObserved : List (String × J) := [("a", (exS1.find (tgtOf exInfo' (exDes' "a"))).getD .null), ("b", (exS1.find (tgtOf exInfo' (exDes' "b"))).getD .null)]
-- the hypotheses of `deleteGroup_run` hold for them, and with only "a" still desired the pass removes "b"
example : (∀ no ∈ exObserved, mstr no.2 "uid" ≠ "") ∧ (exObserved.map (fun no => tgtOf exInfo' no.2)).Nodup := by decide +kernel
example : let r := Prog.runT (worldStep (fun _ _ => .hookErr "none")) (deleteGroup exInfo' "ConfigMap" ["a"] exObserved []) exS1
    ((r.2.find (tgtOf exInfo' (exDes' "a"))).isSome && (r.2.find (tgtOf exInfo' (exDes' "b"))).isNone && r.1.1.isEmpty) = true := by decide +kernel
end Examples

end C01
end Mc
