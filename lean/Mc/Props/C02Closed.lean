import Mc.Props.C02
import Mc.Props.C02Sem
/-
  C02, both halves together: every update and every delete that `ManageChildren` gets *accepted*, in any
  execution among arbitrary other clients and from an arbitrarily stale cache, hit an object the sync had
  observed (update: that very version; delete: that very incarnation), and every accepted create made an
  object that is born with the controller reference to the parent.
-/
namespace Mc
namespace C02
open Api Prog

/-- the cache is sound: `o` was stored, under some key, in a state of the API server from which the present
    one came about (arbitrarily long ago) -/
def Seen (s : State) (o : J) : Prop := ∃ s0 t, Inv s0 ∧ s0.find t = some o ∧ Evolves s0 s

theorem Seen.mono {s s' : State} {o : J} (h : Seen s o) (he : Evolves s s') : Seen s' o := by
  obtain ⟨s0, t, hi, hf, hev⟩ := h
  exact ⟨s0, t, hi, hf, hev.trans he⟩

/-- **C02_manage_accepted_update**: in every execution of `ManageChildren` (dynamic apply) among other clients,
    from a cache that merely holds objects the API server once held, an update that the API server accepts
    modifies an object that is, at that moment, exactly one of the observed children -/
theorem C02_manage_accepted_update (hook : String → J → Resp) (mks : List String) (children : List ChildRes)
    (kt : KindTable) (parentRef : OwnerRef) (observed desired : ObjMap) (memo : Memo) (s : State)
    (hseen : ∀ o, Occurs observed o → Seen s o)
    (log : List (State × Req × Resp)) (a : List String × Memo) (s' : State)
    (hex : Exec hook (manageChildren mks Generated.objectMetaSystemFields children none kt parentRef observed desired memo) s log a s') :
    ∀ e ∈ log, ∀ t body opts x, e.2.1 = .api .update t body opts → e.2.2 = .obj x →
      ∃ obs, Occurs observed obs ∧ e.1.find t = some obs := by
  intro e he t body opts x hreq hresp
  obtain ⟨hP, hev, hans⟩ := exec_log hook _ _ (C02_manage_requests_strong mks _ children kt parentRef observed desired memo) s log a s' hex e he
  rw [hreq] at hP hans
  rw [hresp] at hans
  have hok0 : (e.1.request .update t body opts).1.ok = true := toResp_ok hans.symm
  cases hP with
  | update g info name des obs _ hg hk hnd hobs hact =>
    have hocc := occurs_of_group_lookup observed g.1 name obs hobs
    refine ⟨obs, hocc, ?_⟩
    obtain ⟨s0, t0, hinv, hf, hev0⟩ := hseen obs hocc
    obtain ⟨env, henv⟩ := hev0.trans hev
    obtain ⟨⟨n, _, hrv⟩, ⟨m, _, huid⟩⟩ := hinv.1 t0 obs hf
    have hbody := (C06.C06_update_inv _ _ _ _ _ _ hact).1
    obtain ⟨_, hsame⟩ := C02_update_keeps_identity_generated mks obs des _ _ _ hbody
      (nestedField_of_mstr obs "uid" _ huid (uidTok_ne_empty m))
      (nestedField_of_mstr obs "resourceVersion" _ hrv (rvTok_ne_empty n))
    have hrv' : mstr body "resourceVersion" = mstr obs "resourceVersion" := by
      rw [mstr_eq_strAt, mstr_eq_strAt]; exact hsame
    rw [henv] at hok0
    have := C02_update_lands_on_observed s0 hinv t0 obs hf env _ body .null hrv' hok0
    rw [henv]; exact this.2

/-- **C02_manage_accepted_delete**: likewise every accepted delete removes (or marks for deletion) an object
    that carries the UID of an observed child and lives under that child's own key - never a same-named
    object created later (`C02_recreated_never_deleted`) -/
theorem C02_manage_accepted_delete (hook : String → J → Resp) (mks : List String) (children : List ChildRes)
    (kt : KindTable) (parentRef : OwnerRef) (observed desired : ObjMap) (memo : Memo) (s : State)
    (hseen : ∀ o, Occurs observed o → Seen s o)
    (log : List (State × Req × Resp)) (a : List String × Memo) (s' : State)
    (hex : Exec hook (manageChildren mks Generated.objectMetaSystemFields children none kt parentRef observed desired memo) s log a s') :
    ∀ e ∈ log, ∀ t body opts x, e.2.1 = .api .delete t body opts → e.2.2 = .obj x →
      ∃ obs c, Occurs observed obs ∧ e.1.find t = some c ∧ mstr c "uid" = mstr obs "uid" := by
  intro e he t body opts x hreq hresp
  obtain ⟨hP, hev, hans⟩ := exec_log hook _ _ (C02_manage_requests mks _ children kt parentRef observed desired memo) s log a s' hex e he
  rw [hreq] at hP hans
  rw [hresp] at hans
  -- both kinds of delete carry the UID of an observed child
  obtain ⟨obs, hocc, hopts⟩ : ∃ obs, Occurs observed obs ∧ opts = deleteOpts (getUID obs) := by
    obtain ⟨_, _, ⟨o, ho, h⟩ | ⟨o, _, ho, _, h⟩ | ⟨_, _, _, _, _, _, h⟩ | ⟨_, _, h⟩⟩ := hP <;> cases h
    · exact ⟨o, ho, rfl⟩
    · exact ⟨o, ho, rfl⟩
  obtain ⟨s0, t0, hinv, hf, hev0⟩ := hseen obs hocc
  obtain ⟨env, henv⟩ := hev0.trans hev
  obtain ⟨_, ⟨m, _, huid⟩⟩ := hinv.1 t0 obs hf
  have hu : precondition opts "uid" = some (mstr obs "uid") := by
    rw [hopts, show getUID obs = mstr obs "uid" from (mstr_eq_strAt obs "uid").symm]
    exact precondition_deleteOpts _ (huid ▸ uidTok_ne_empty m)
  have hok : ((s0.execs env).request .delete t body opts).1.ok = true := by
    rw [← henv]; exact toResp_ok hans.symm
  obtain ⟨ht, c, hc, e⟩ := C02_delete_hits_observed_uid s0 hinv t0 obs hf env t body opts hu hok
  exact ⟨obs, c, hocc, by rw [henv, ht]; exact hc, e⟩

/-- **C02_manage_accepted_create**: an accepted create found the name free, and the object stored carries the
    controller reference to the parent (the owner references of `createBody`) -/
theorem C02_manage_accepted_create (hook : String → J → Resp) (mks : List String) (children : List ChildRes)
    (kt : KindTable) (parentRef : OwnerRef) (observed desired : ObjMap) (memo : Memo) (s : State)
    (log : List (State × Req × Resp)) (a : List String × Memo) (s' : State)
    (hex : Exec hook (manageChildren mks Generated.objectMetaSystemFields children none kt parentRef observed desired memo) s log a s') :
    ∀ e ∈ log, ∀ t body opts x, e.2.1 = .api .create t body opts → e.2.2 = .obj x →
      e.1.find t = none ∧ (∃ des, body = createBody parentRef des) ∧
      ∃ o, (e.1.request .create t body opts).2.find t = some o ∧
        lookup "ownerReferences" (metaOf o) = lookup "ownerReferences" (metaOf body) := by
  intro e he t body opts x hreq hresp
  obtain ⟨hP, _, hans⟩ := exec_log hook _ _ (C02_manage_requests_strong mks _ children kt parentRef observed desired memo) s log a s' hex e he
  rw [hreq] at hP hans
  rw [hresp] at hans
  have hok : (e.1.request .create t body opts).1.ok = true := toResp_ok hans.symm
  obtain ⟨h1, h2⟩ := C02_created_born_with_references e.1 t body opts hok
  refine ⟨h1, ?_, h2⟩
  cases hP with
  | create g info name des _ _ _ _ => exact ⟨des, rfl⟩

end C02
end Mc

/-! Concrete histories for the theorems of C02Sem: an accepted update, a refused one, a re-created object. -/
namespace Mc
namespace C02
open Api

def exDef : ResDef := { group := "", resource := "configmaps", namespaced := true, hasStatus := false }
def exT : Target := { group := "", resource := "configmaps", ns := "ns", name := "a" }
def exBody : J := .obj [("metadata", .obj [("name", .str "a")]), ("data", .obj [("k", .str "v")])]
/-- a store reached by one create -/
def exS1 : State := (emptyState [exDef]).exec ⟨.create, exT, exBody, .null⟩
def exO1 : J := (exS1.find exT).getD .null
/-- somebody else touches another object; then our update, carrying the observed resourceVersion, arrives -/
def exEnv : List ApiReq := [⟨.create, { exT with name := "b" }, .obj [("metadata", .obj [("name", .str "b")])], .null⟩]
def exUpd : J := .obj [("metadata", .obj [("name", .str "a"), ("resourceVersion", .str (mstr exO1 "resourceVersion"))]), ("data", .obj [("k", .str "w")])]

example : Inv exS1 := inv_reachable [exDef] [_]
example : exS1.find exT = some exO1 ∧ mstr exO1 "uid" = "uid-1" ∧ mstr exO1 "resourceVersion" = "1" := by
  have h : (exS1.find exT).isSome = true ∧ mstr exO1 "uid" = "uid-1" ∧ mstr exO1 "resourceVersion" = "1" := by decide +kernel
  refine ⟨?_, h.2⟩
  unfold exO1
  cases hf : exS1.find exT with
  | none => rw [hf] at h; cases h.1
  | some x => rfl
-- accepted: the hypotheses of `C02_update_lands_on_observed` hold, with a non-empty environment
example : ((exS1.execs exEnv).request .update exT exUpd .null).1.ok = true ∧
    mstr exUpd "resourceVersion" = mstr exO1 "resourceVersion" := by decide +kernel
-- the object is edited by somebody else first: the same update is refused (Conflict)
example : (((exS1.execs [⟨.update, exT, exUpd, .null⟩]).request .update exT exUpd .null).1.code) = 409 := by decide +kernel
-- deleted and re-created under the same name: a delete conditioned on the old UID is refused,
-- one conditioned on the UID of the live object is accepted
example : (((exS1.execs [⟨.delete, exT, .null, .null⟩]).execs [⟨.create, exT, exBody, .null⟩]).request .delete exT .null
    (deleteOpts (mstr exO1 "uid"))).1.code = 409 := by decide +kernel
example : (exS1.request .delete exT .null (deleteOpts (mstr exO1 "uid"))).1.ok = true := by decide +kernel
example : (exS1.execs [⟨.delete, exT, .null, .null⟩]).find exT = none := by decide +kernel

end C02
end Mc
