import Mc.Sync.Common
/-
  C06 - each child type is changed only by the method its update strategy allows.
  Theorems about `updateAct` (the decision of `updateChildren` under dynamic apply) for every
  observed/desired pair, every method string, every merge-key list.
-/
namespace Mc.C06

def ChildAct.isNone : ChildAct → Bool | .none => true | _ => false
def ChildAct.isUpdate : ChildAct → Bool | .update _ => true | _ => false
def ChildAct.isDelete : ChildAct → Bool | .delete _ => true | _ => false
def ChildAct.isError : ChildAct → Bool | .error _ => true | _ => false

/-- "differs": the three-way merge changes the observed object -/
def differs (mks sys : List String) (obs des : J) : Bool :=
  match applyUpdate mks sys obs des with
  | .ok new => !new.eqv obs
  | .error _ => false

/-- whatever the strategy, a child that already matches receives no write -/
theorem C06_equal_no_write (mks sys : List String) (m : String) (obs des new : J)
    (h : applyUpdate mks sys obs des = .ok new) (heq : new.eqv obs = true) :
    ChildAct.isNone (updateAct mks sys m obs des) = true := by
  simp [updateAct, h, heq, ChildAct.isNone]

/-- whatever the strategy, a child pending deletion receives no write -/
theorem C06_pending_no_write (mks sys : List String) (m : String) (obs des new : J)
    (h : applyUpdate mks sys obs des = .ok new) (hd : isDeleting obs = true) :
    ChildAct.isNone (updateAct mks sys m obs des) = true := by
  simp [updateAct, h, hd, ChildAct.isNone]

/-- a failed merge is reported, never acted upon -/
theorem C06_merge_error (mks sys : List String) (m : String) (obs des : J) (e : String)
    (h : applyUpdate mks sys obs des = .error e) :
    ChildAct.isError (updateAct mks sys m obs des) = true := by
  simp [updateAct, h, ChildAct.isError]

/-- OnDelete (or no strategy): neither updated nor deleted -/
theorem C06_ondelete (mks sys : List String) (m : String) (obs des : J)
    (hm : m = "OnDelete" ∨ m = "") :
    ChildAct.isUpdate (updateAct mks sys m obs des) = false ∧ ChildAct.isDelete (updateAct mks sys m obs des) = false := by
  unfold updateAct
  rcases hm with rfl | rfl <;>
  · split
    · simp [ChildAct.isUpdate, ChildAct.isDelete]
    · split
      · simp [ChildAct.isUpdate, ChildAct.isDelete]
      · split <;> simp [ChildAct.isUpdate, ChildAct.isDelete]

/-- Recreate / RollingRecreate: deleted - never updated in place - exactly when it differs and is not pending deletion;
    the delete names the UID of the observed object -/
theorem C06_recreate (mks sys : List String) (m : String) (obs des new : J)
    (hm : m = "Recreate" ∨ m = "RollingRecreate") (h : applyUpdate mks sys obs des = .ok new) :
    ChildAct.isUpdate (updateAct mks sys m obs des) = false ∧
    (ChildAct.isDelete (updateAct mks sys m obs des) = (!new.eqv obs && !isDeleting obs)) ∧
    (∀ uid, updateAct mks sys m obs des = .delete uid → uid = getUID obs) := by
  unfold updateAct
  simp only [h]
  rcases hm with rfl | rfl <;>
  · by_cases h1 : new.eqv obs = true
    · simp [h1, ChildAct.isUpdate, ChildAct.isDelete]
    · by_cases h2 : isDeleting obs = true
      · simp [h1, h2, ChildAct.isUpdate, ChildAct.isDelete]
      · simp [h1, h2, ChildAct.isUpdate, ChildAct.isDelete]

/-- InPlace / RollingInPlace: updated - never deleted - exactly when it differs and is not pending deletion;
    the body sent is the merged object -/
theorem C06_inplace (mks sys : List String) (m : String) (obs des new : J)
    (hm : m = "InPlace" ∨ m = "RollingInPlace") (h : applyUpdate mks sys obs des = .ok new) :
    ChildAct.isDelete (updateAct mks sys m obs des) = false ∧
    (ChildAct.isUpdate (updateAct mks sys m obs des) = (!new.eqv obs && !isDeleting obs)) ∧
    (∀ body, updateAct mks sys m obs des = .update body → body = new) := by
  unfold updateAct
  simp only [h]
  rcases hm with rfl | rfl <;>
  · by_cases h1 : new.eqv obs = true
    · simp [h1, ChildAct.isUpdate, ChildAct.isDelete]
    · by_cases h2 : isDeleting obs = true
      · simp [h1, h2, ChildAct.isUpdate, ChildAct.isDelete]
      · simp [h1, h2, ChildAct.isUpdate, ChildAct.isDelete]

/-- an unknown method is an error for a child that needs a change, and never a write -/
theorem C06_unknown_method (mks sys : List String) (m : String) (obs des : J)
    (hm : m ≠ "OnDelete" ∧ m ≠ "" ∧ m ≠ "Recreate" ∧ m ≠ "RollingRecreate" ∧ m ≠ "InPlace" ∧ m ≠ "RollingInPlace") :
    ChildAct.isUpdate (updateAct mks sys m obs des) = false ∧ ChildAct.isDelete (updateAct mks sys m obs des) = false := by
  obtain ⟨h1, h2, h3, h4, h5, h6⟩ := hm
  unfold updateAct
  split
  · simp [ChildAct.isUpdate, ChildAct.isDelete]
  · split
    · simp [ChildAct.isUpdate, ChildAct.isDelete]
    · split
      · simp [ChildAct.isUpdate, ChildAct.isDelete]
      · split <;> simp_all [ChildAct.isUpdate, ChildAct.isDelete]

/-- default method: unset, empty or `OnDelete` in the spec all read as OnDelete; a kind that is not declared too -/
theorem C06_default_method (children : List ChildRes) (group kind : String)
    (h : ∀ c ∈ children, c.group == group && c.kind == kind → c.method = none ∨ c.method = some "" ∨ c.method = some "OnDelete") :
    getMethod children group kind = "OnDelete" := by
  unfold getMethod
  split
  · rename_i c hc
    have hm := List.find?_some hc
    have hmem := List.mem_of_find?_eq_some hc
    rcases h c hmem hm with h1 | h1 | h1 <;> simp [h1]
  · rfl

/-- every delete of a child carries the UID precondition and background propagation -/
theorem C06_delete_options (uid : String) :
    strAt (deleteOpts uid) ["preconditions", "uid"] = uid ∧ strAt (deleteOpts uid) ["propagationPolicy"] = "Background" := by
  constructor <;> simp [deleteOpts, strAt, nestedField, lookup]

-- non-vacuity: a concrete child that differs, under each strategy
example : ChildAct.isUpdate (updateAct ["name"] ["uid"] "InPlace"
    (.obj [("metadata", .obj [("name", .str "c")]), ("spec", .obj [("image", .str "v1")])])
    (.obj [("metadata", .obj [("name", .str "c")]), ("spec", .obj [("image", .str "v2")])])) = true := by decide +kernel
example : ChildAct.isDelete (updateAct ["name"] ["uid"] "Recreate"
    (.obj [("metadata", .obj [("name", .str "c"), ("uid", .str "u1")]), ("spec", .obj [("image", .str "v1")])])
    (.obj [("metadata", .obj [("name", .str "c")]), ("spec", .obj [("image", .str "v2")])])) = true := by decide +kernel

/-- inversion: a delete is decided only under Recreate / RollingRecreate, for a child that differs and is not
    pending deletion, and names the UID of the observed object -/
theorem C06_delete_inv (mks sys : List String) (m : String) (obs des : J) (uid : String)
    (h : updateAct mks sys m obs des = .delete uid) :
    uid = getUID obs ∧ (m = "Recreate" ∨ m = "RollingRecreate") ∧
    ∃ new, applyUpdate mks sys obs des = .ok new ∧ new.eqv obs = false ∧ isDeleting obs = false := by
  unfold updateAct at h
  split at h
  · cases h
  · rename_i new hnew
    split at h
    · cases h
    · rename_i h1
      split at h
      · cases h
      · rename_i h2
        split at h
        · cases h
        · cases h
        · cases h; exact ⟨rfl, Or.inl rfl, new, hnew, by simpa using h1, by simpa using h2⟩
        · cases h; exact ⟨rfl, Or.inr rfl, new, hnew, by simpa using h1, by simpa using h2⟩
        · cases h
        · cases h
        · cases h

/-- inversion: an update is decided only under InPlace / RollingInPlace, for a child that differs and is not
    pending deletion, and its body is the merged object -/
theorem C06_update_inv (mks sys : List String) (m : String) (obs des body : J)
    (h : updateAct mks sys m obs des = .update body) :
    applyUpdate mks sys obs des = .ok body ∧ (m = "InPlace" ∨ m = "RollingInPlace") ∧
    body.eqv obs = false ∧ isDeleting obs = false := by
  unfold updateAct at h
  split at h
  · cases h
  · rename_i new hnew
    split at h
    · cases h
    · rename_i h1
      split at h
      · cases h
      · rename_i h2
        split at h
        · cases h
        · cases h
        · cases h
        · cases h
        · cases h; exact ⟨hnew, Or.inl rfl, by simpa using h1, by simpa using h2⟩
        · cases h; exact ⟨hnew, Or.inr rfl, by simpa using h1, by simpa using h2⟩
        · cases h

end Mc.C06
