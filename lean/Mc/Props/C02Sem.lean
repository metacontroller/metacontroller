import Mc.Proofs.WorldLemmas
import Mc.Proofs.ProgLemmas
import Mc.Sync.Common
/-
  C02, semantic half: what an *accepted* write tells, in the closed world of Mc/World.lean - the API-server model
  with arbitrary other clients acting between any two requests.  The syntactic half (Mc/Props/C02.lean) shows which
  requests a sync can issue and what they carry (update bodies the observed resourceVersion, deletes the observed
  UID, creates the controller reference).  Here: what the API server's acceptance of such a request implies about
  the object hit, for every history of the store, every staleness of the cache and every interleaving; then
  `exec_log` / `exec_writesFollow` carry facts about a program's requests to the log of an interleaved execution.
-/
namespace Mc
namespace C02
open Api

/-- the theorem behind the next two, for either update endpoint -/
theorem write_lands_on_observed {v : Verb} (hv : v = .update ∨ v = .updateStatus) (s : State) (hinv : Inv s) (t : Target) (o : J)
    (ho : s.find t = some o) (env : List ApiReq) (t' : Target) (body opts : J)
    (hrv : mstr body "resourceVersion" = mstr o "resourceVersion")
    (hok : ((s.execs env).request v t' body opts).1.ok = true) :
    t' = t ∧ (s.execs env).find t' = some o := by
  obtain ⟨d, e⟩ := request_ok hok
  rw [e] at hok
  obtain ⟨c, hc, e, _⟩ := write_ok hv d t' _ body opts _ _ hok
  obtain ⟨ht, hco⟩ := rv_identifies s hinv t o ho env t' c hc (e.symm.trans hrv)
  exact ⟨ht, hco ▸ hc⟩

/-- **C02_update_lands_on_observed**: `o` was stored under `t` at some time (that is all a cache can hold).
    After any requests by anybody, an update that carries `o`'s resourceVersion - addressed to whatever target -
    is accepted only if that target is `t` and the live object is still exactly `o`.
    So an accepted update of a cached child modifies the very version the sync looked at: if the cached
    version was controlled by the parent, so is the object written. -/
theorem C02_update_lands_on_observed (s : State) (hinv : Inv s) (t : Target) (o : J) (ho : s.find t = some o)
    (env : List ApiReq) (t' : Target) (body opts : J)
    (hrv : mstr body "resourceVersion" = mstr o "resourceVersion")
    (hok : ((s.execs env).request .update t' body opts).1.ok = true) :
    t' = t ∧ (s.execs env).find t' = some o :=
  write_lands_on_observed (.inl rfl) s hinv t o ho env t' body opts hrv hok

/-- the same for the status endpoint (the parent status write of C11) -/
theorem C02_status_update_lands_on_observed (s : State) (hinv : Inv s) (t : Target) (o : J) (ho : s.find t = some o)
    (env : List ApiReq) (t' : Target) (body opts : J)
    (hrv : mstr body "resourceVersion" = mstr o "resourceVersion")
    (hok : ((s.execs env).request .updateStatus t' body opts).1.ok = true) :
    t' = t ∧ (s.execs env).find t' = some o :=
  write_lands_on_observed (.inr rfl) s hinv t o ho env t' body opts hrv hok

/-- **C02_delete_hits_observed_uid**: an accepted delete conditioned on the UID of `o` (once stored under `t`)
    removes an object under `t` that carries that UID: the same incarnation, whatever happened in between -/
theorem C02_delete_hits_observed_uid (s : State) (hinv : Inv s) (t : Target) (o : J) (ho : s.find t = some o)
    (env : List ApiReq) (t' : Target) (body opts : J) (hu : precondition opts "uid" = some (mstr o "uid"))
    (hok : ((s.execs env).request .delete t' body opts).1.ok = true) :
    t' = t ∧ ∃ c, (s.execs env).find t = some c ∧ mstr c "uid" = mstr o "uid" := by
  obtain ⟨c, hc, e⟩ := request_delete_ok _ t' body opts _ hu hok
  have ht := uid_identifies s hinv t o ho env t' c hc e
  subst ht
  exact ⟨rfl, c, hc, e⟩

/-- **C02_recreated_never_deleted**: if the observed object disappeared at some point (`env1`), nothing stored
    afterwards - in particular a same-named object created later - can be removed by a delete conditioned on
    the observed UID: the request is refused -/
theorem C02_recreated_never_deleted (s : State) (hinv : Inv s) (t : Target) (o : J) (ho : s.find t = some o)
    (env1 env2 : List ApiReq) (hgone : (s.execs env1).find t = none)
    (t' : Target) (body opts : J) (hu : precondition opts "uid" = some (mstr o "uid")) :
    (((s.execs env1).execs env2).request .delete t' body opts).1.ok = false := by
  cases hok : (((s.execs env1).execs env2).request .delete t' body opts).1.ok with
  | false => rfl
  | true =>
    obtain ⟨c, hc, e⟩ := request_delete_ok _ t' body opts _ hu hok
    rcases (execs_find_cases env2 _ t' c hc).2 with ⟨c0, h0, e0⟩ | ⟨n, hn, en⟩
    · -- its UID was already under `t'` when `t` was found empty: then `t' = t`
      have := uid_identifies s hinv t o ho env1 t' c0 h0 (e0.symm.trans e)
      subst this
      rw [hgone] at h0; cases h0
    · obtain ⟨_, ⟨m, hm, em⟩⟩ := hinv.1 t o ho
      have := uidTok_inj (en.symm.trans (e.trans em))
      have := uid_mono env1 s
      omega

/-- **C02_created_born_with_references**: an accepted create found the name free and the stored object carries
    exactly the owner references of the request body (with `C02_create_controller`: the controller reference to
    the parent) -/
theorem C02_created_born_with_references (s : State) (t : Target) (body opts : J)
    (hok : (s.request .create t body opts).1.ok = true) :
    s.find t = none ∧ ∃ o, (s.request .create t body opts).2.find t = some o ∧
      lookup "ownerReferences" (metaOf o) = lookup "ownerReferences" (metaOf body) := by
  rw [request_find, if_pos rfl]
  obtain ⟨d, e⟩ := request_ok hok
  rw [e] at hok ⊢
  obtain ⟨hn, hp⟩ := create_ok d t _ body _ hok
  exact ⟨hn, _, hp, created_ownerRefs d t body s.fresh⟩

/-- every logged step of an interleaved execution: the request satisfies what all requests of the program
    satisfy, was answered by the world from a state the initial one evolved into -/
theorem exec_log {α : Type} (hook : String → J → Resp) (P : Req → Prop) (p : Prog α) (hp : Prog.AllCalls P p) :
    ∀ (s : State) (log : List (State × Req × Resp)) (a : α) (s' : State), Exec hook p s log a s' →
      ∀ e ∈ log, P e.2.1 ∧ Evolves s e.1 ∧ e.2.2 = (worldStep hook e.1 e.2.1).1 := by
  induction hp with
  | ret a =>
    intro s log a' s' h
    cases h
    intro e he; cases he
  | call r k hr _ ih =>
    intro s log a' s' h
    cases h with
    | call _ _ _ env log' _ _ hrest =>
      intro e he
      rcases List.mem_cons.mp he with rfl | he'
      · exact ⟨hr, ⟨env, rfl⟩, rfl⟩
      · obtain ⟨h1, h2, h3⟩ := ih _ _ _ _ _ hrest e he'
        refine ⟨h1, ?_, h3⟩
        refine Evolves.trans ⟨env, rfl⟩ (Evolves.trans ?_ h2)
        cases r with
        | api v t body opts => exact ⟨[⟨v, t, body, opts⟩], rfl⟩
        | hook n req => exact Evolves.refl _

theorem exec_writesFollow {hook : String → J → Resp} {α : Type} {W : Req → Prop} {Φ : Resp → Req → Prop} {st : Option Resp} {p : Prog α}
    (hp : Prog.WritesFollow W Φ st p) : ∀ (s : State) (log : List (State × Req × Resp)) (a : α) (s' : State),
      Exec hook p s log a s' → ∀ e ∈ log, W e.2.1 →
        (∃ x l, st = some x ∧ log = e :: l ∧ Φ x e.2.1) ∨
        ∃ e0 ∈ log, ¬ W e0.2.1 ∧ Φ e0.2.2 e.2.1 ∧ Evolves (worldStep hook e0.1 e0.2.1).2 e.1 := by
  induction hp with
  | ret st a => intro s log a' s' h; cases h; intro e he; cases he
  | read st r k hr _ ih =>
    intro s log a' s' h
    cases h with
    | call _ _ _ env log' _ _ hrest =>
      intro e he hw
      rcases List.mem_cons.mp he with rfl | he'
      · exact (hr hw).elim
      · rcases ih _ _ _ _ _ hrest e he' hw with ⟨x, l, hx, rfl, hΦ⟩ | ⟨e0, he0, h0⟩
        · cases hx
          exact .inr ⟨_, List.mem_cons_self .., hr, hΦ, hrest.head⟩
        · exact .inr ⟨e0, List.mem_cons_of_mem _ he0, h0⟩
  | write x r k hΦ _ ih =>
    intro s log a' s' h
    cases h with
    | call _ _ _ env log' _ _ hrest =>
      intro e he hw
      rcases List.mem_cons.mp he with rfl | he'
      · exact .inl ⟨x, log', rfl, rfl, hΦ⟩
      · rcases ih _ _ _ _ _ hrest e he' hw with ⟨_, _, hx, _⟩ | ⟨e0, he0, h0⟩
        · cases hx
        · exact .inr ⟨e0, List.mem_cons_of_mem _ he0, h0⟩

theorem precondition_deleteOpts (u : String) (hu : u ≠ "") : precondition (deleteOpts u) "uid" = some u := by
  simp [precondition, deleteOpts, J.fields, lookup, hu]

theorem preFails_deleteOpts (obj : J) (hu : mstr obj "uid" ≠ "") (k : String) : preFails (deleteOpts (getUID obj)) k obj = false := by
  have hg : getUID obj = mstr obj "uid" := (mstr_eq_strAt obj "uid").symm
  unfold preFails
  by_cases hk : k = "uid"
  · rw [hk, hg, precondition_deleteOpts _ hu]; simp
  · simp [precondition, deleteOpts, J.fields, lookup, hk]

end C02
end Mc
