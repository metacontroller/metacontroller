import Mc.Props.C01Closed
import Mc.Proofs.ApplyFix
import Mc.Props.C01
/-
  C01, field level, for the create path: the object the API server stores for a create sent by `ManageChildren`
  is a fixpoint of `ApplyUpdate` for the same desired object - so the next sync, working from a cache that shows
  exactly that object, decides "nothing to do" for it, whatever the update strategy. With `createGroup_run`:
  a create pass followed by a silent pass (`C01_create_converges`).
-/
namespace Mc
namespace C01
open Api C05

theorem Ext_refl (mks : List String) : ∀ v : J, hypJ mks v = true → Ext v v := by
  intro v
  induction v using J.induct with
  | hobj kvs ih =>
    intro h
    obtain ⟨hu, hf⟩ := hypJ_obj.mp h
    simp only [Ext]
    refine ⟨kvs, rfl, (ExtF_iff kvs kvs).mpr ?_⟩
    intro k v hm
    exact ⟨v, lookup_of_mem_uniq kvs k v hu hm, ih k v hm (hf k v hm)⟩
  | _ => intro _; simp [Ext, J.isArr]

/-- what the hook's desired child has to look like for the theorems of this file: an object with a metadata map that sets
    none of the fields the API server or metacontroller own, no annotations, no status -/
structure PlainChild (d : ResDef) (t : Target) (ds dm : KVs) : Prop where
  hmeta : lookup "metadata" ds = some (.obj dm)
  hstatus : lookup "status" ds = none
  hann : lookup "annotations" dm = none
  hrefs : lookup "ownerReferences" dm = none
  huid : lookup "uid" dm = none
  hrv : lookup "resourceVersion" dm = none
  hgen : lookup "generation" dm = none
  hcre : lookup "creationTimestamp" dm = none
  hdel : lookup "deletionTimestamp" dm = none
  hns : d.namespaced = true → ∀ v, lookup "namespace" dm = some v → v = .str t.ns

theorem createBody_plain (ref : OwnerRef) (d : ResDef) (t : Target) (ds dm : KVs) (h : PlainChild d t ds dm) :
    createBody ref (.obj ds) = .obj (setKey "metadata" (.obj (setKey "ownerReferences" (.arr [ref.toJ])
      (setKey "annotations" (.obj [(lastAppliedAnnotation, .obj ds)]) dm)))
      (setKey "metadata" (.obj (setKey "annotations" (.obj [(lastAppliedAnnotation, .obj ds)]) dm)) ds)) := by
  have hga : getAnnotations (.obj ds) = none := by
    unfold getAnnotations stringMapAt
    rw [nestedField_obj_two "annotations" h.hmeta, h.hann]
  have hb1 : setLastApplied (.obj ds) (.obj ds) =
      .obj (setKey "metadata" (.obj (setKey "annotations" (.obj [(lastAppliedAnnotation, .obj ds)]) dm)) ds) := by
    unfold setLastApplied setStringMapAt
    simp [hga, setNestedField, setNestedFieldKVs, J.fields, h.hmeta, setKey]
  unfold createBody
  simp only [hb1]
  have hrefs : getOwnerRefs (.obj (setKey "metadata" (.obj (setKey "annotations" (.obj [(lastAppliedAnnotation, .obj ds)]) dm)) ds)) = [] := by
    unfold getOwnerRefs
    rw [nestedField_obj_two "ownerReferences" (lookup_setKey_same _ _ _), lookup_setKey_other _ _ _ _ (by decide), h.hrefs]
  rw [hrefs]
  unfold setOwnerRefs
  simp [setNestedField, setNestedFieldKVs, J.fields, lookup_setKey_same]

/-- **the created child is a fixpoint**: what the API server stores for the create of a plain desired child is
    `Stamped` for that desired child -/
theorem created_stamped (mks : List String) (ref : OwnerRef) (d : ResDef) (t : Target) (ds dm : KVs) (f : Fresh)
    (h : PlainChild d t ds dm) (hh : hypJ mks (.obj ds) = true) :
    Stamped mks (created d t (createBody ref (.obj ds)) f false) (.obj ds) := by
  obtain ⟨hu, hf⟩ := hypJ_obj.mp hh
  have hdmJ : hypJ mks (.obj dm) = true := hf "metadata" (.obj dm) (lookup_mem ds "metadata" (.obj dm) h.hmeta)
  obtain ⟨hudm, hfdm⟩ := hypJ_obj.mp hdmJ
  have hbody := createBody_plain ref d t ds dm h
  obtain ⟨os, hos, hmeta, hother⟩ := created_obj d t (createBody ref (.obj ds)) f
  have hmb : metaOf (createBody ref (.obj ds)) = setKey "ownerReferences" (.arr [ref.toJ])
      (setKey "annotations" (.obj [(lastAppliedAnnotation, .obj ds)]) dm) := by
    rw [hbody]; simp [metaOf, J.fields, lookup_setKey_same]
  have hfb : ∀ k, k ≠ "metadata" → lookup k (createBody ref (.obj ds)).fields = lookup k ds := by
    intro k hk
    rw [hbody]
    simp only [J.fields]
    rw [lookup_setKey_other _ _ _ _ hk, lookup_setKey_other _ _ _ _ hk]
  have hla : lookup lastAppliedAnnotation [(lastAppliedAnnotation, J.obj ds)] = some (J.obj ds) := by simp [lookup]
  refine ⟨os, metaOf (created d t (createBody ref (.obj ds)) f false), [(lastAppliedAnnotation, .obj ds)], ds, hos, rfl, hmeta, ?_, ?_, hla, ?_, ?_, hh⟩
  · -- the annotations of the stored object
    rw [lookup_created d t _ f "annotations" (by decide), if_neg fun h => absurd h.2 (by decide), hmb, lookup_setKey_other _ _ _ _ (by decide)]
    exact lookup_setKey_same _ _ _
  · simp [isStringish]
  · -- the desired object carries no annotation of ours
    unfold nullifyLastApplied getAnnotations stringMapAt
    rw [nestedField_obj_two "annotations" h.hmeta, h.hann]
  · -- the stored object extends the desired one
    simp only [Ext]
    refine ⟨os, hos, (ExtF_iff ds os).mpr ?_⟩
    intro k v hm
    have hlk : lookup k ds = some v := lookup_of_mem_uniq ds k v hu hm
    by_cases hk : k = "metadata"
    · subst hk
      rw [h.hmeta] at hlk
      cases hlk
      refine ⟨_, hmeta, ?_⟩
      simp only [Ext]
      refine ⟨_, rfl, (ExtF_iff dm _).mpr ?_⟩
      intro k' v' hm'
      have hlk' : lookup k' dm = some v' := lookup_of_mem_uniq dm k' v' hudm hm'
      have ne : ∀ r, lookup r dm = none → k' ≠ r := by
        intro r hr e; rw [e, hr] at hlk'; cases hlk'
      rw [lookup_created d t _ f k' (by
        simp only [List.mem_cons, List.not_mem_nil, or_false, not_or]
        exact ⟨ne _ h.huid, ne _ h.hrv, ne _ h.hgen, ne _ h.hcre, ne _ h.hdel⟩), hmb]
      split
      · rename_i hns
        rw [hns.2] at hlk'
        cases h.hns hns.1 v' hlk'
        exact ⟨_, rfl, by simp [Ext]⟩
      · rw [lookup_setKey_other _ _ _ _ (ne _ h.hrefs), lookup_setKey_other _ _ _ _ (ne _ h.hann)]
        exact ⟨v', hlk', Ext_refl mks v' (hfdm _ _ hm')⟩
    · refine ⟨v, ?_, Ext_refl mks v (hf k v hm)⟩
      have hks : k ≠ "status" := by
        intro e; rw [e, h.hstatus] at hlk; cases hlk
      rw [hother k hk]
      simp only [hks, and_false, if_false]
      rw [hfb k hk]
      exact hlk

/-! Well-formedness of the stored object is needed only because `DeepEqual` is modelled by `eqv`. -/

theorem createBody_wfB (mks : List String) (ref : OwnerRef) (d : ResDef) (t : Target) (ds dm : KVs) (h : PlainChild d t ds dm)
    (hh : hypJ mks (.obj ds) = true) : (createBody ref (.obj ds)).wfB = true := by
  rw [createBody_plain ref d t ds dm h]
  have hds : (J.obj ds).wfB = true := hypJ_wfB hh
  have hdm : (J.obj dm).wfB = true := ((wfB_obj ds).mp hds).2 "metadata" (.obj dm) (lookup_mem _ _ _ h.hmeta)
  have hla : (J.obj [(lastAppliedAnnotation, J.obj ds)]).wfB = true := wfB_setKey _ _ [] rfl hds
  have hm1 := wfB_setKey "annotations" _ dm hdm hla
  have hrefs : (J.arr [ref.toJ]).wfB = true := by
    simp [J.wfB, wflB, ownerRef_toJ_wfB]
  have hm2 := wfB_setKey "ownerReferences" _ _ hm1 hrefs
  exact wfB_setKey "metadata" _ _ (wfB_setKey "metadata" _ ds hds hm1) hm2

/-- **C01, create path, field level**: the child the API server stores for the create is left alone by the next sync:
    `updateChildren` decides "nothing to do" for it - for every update strategy, every list of merge keys -/
theorem C01_created_child_is_settled (mks sys : List String) (method : String) (ref : OwnerRef) (d : ResDef) (t : Target)
    (ds dm : KVs) (f : Fresh) (h : PlainChild d t ds dm) (hh : hypJ mks (.obj ds) = true) :
    updateAct mks sys method (created d t (createBody ref (.obj ds)) f false) (.obj ds) = .none := by
  refine C01_equal_is_fix mks sys method _ _ _ (applyUpdate_stamped mks sys _ _ (created_stamped mks ref d t ds dm f h hh)) ?_
  exact J.eqv_refl _ (created_wfB d t _ f (createBody_wfB mks ref d t ds dm h hh))

/-- **C01, create path, two syncs**: nothing of this kind is owned yet, the desired children are plain (see
    `PlainChild`), their names are free, nobody else writes.  The first pass of `updateChildren` creates them
    (`createGroup_run`); a second pass that works from a cache showing what the API server then holds issues
    **no request at all** and reports no error - whatever the update strategy of the kind. -/
theorem C01_create_converges (hook : String → J → Resp) (mks sys : List String) (children : List ChildRes) (info : KindInfo) (kind : String)
    (parentRef : OwnerRef) (desired : List (String × J)) (memo memo' : Memo) (s : State)
    (hdef : ∀ nd ∈ desired, (s.defOf (tgtOf info nd.2)).isSome)
    (hfree : ∀ nd ∈ desired, s.find (tgtOf info nd.2) = none)
    (hwf : ∀ nd ∈ desired, (createBody parentRef nd.2).isNull = false ∧ (getName nd.2 == "") = false ∧
        nControllerRefs (createBody parentRef nd.2) ≤ 1)
    (hnd : (desired.map (fun nd => tgtOf info nd.2)).Nodup)
    (hplain : ∀ nd ∈ desired, ∀ d, s.defOf (tgtOf info nd.2) = some d →
        ∃ ds dm, nd.2 = .obj ds ∧ PlainChild d (tgtOf info nd.2) ds dm ∧ hypJ mks (.obj ds) = true)
    (observed' : List (String × J))
    (hcache : ∀ nd ∈ desired, observed'.lookup nd.1 =
        (Prog.runT (W hook) (updateGroup mks sys children none info kind parentRef [] desired memo) s).2.find (tgtOf info nd.2)) :
    updateGroup mks sys children none info kind parentRef observed' desired memo' = .ret ([], memo') := by
  obtain ⟨_, hmade, _, _⟩ := createGroup_run hook mks sys children info kind parentRef desired memo s hdef hfree hwf hnd
  refine C01_updateGroup_quiet mks sys children info kind parentRef observed' desired memo' ?_
  intro nd hmem
  obtain ⟨d, f, hd, hfound⟩ := hmade nd hmem
  obtain ⟨ds, dm, hds, hpl, hh⟩ := hplain nd hmem d hd
  refine ⟨_, (hcache nd hmem).trans hfound, ?_⟩
  rw [hds]
  exact C01_created_child_is_settled mks sys _ parentRef d _ ds dm f (hds ▸ hpl) hh

-- non-vacuity: the example children of `C01Closed` are plain
example : PlainChild { group := "", resource := "configmaps", namespaced := true, hasStatus := false } (tgtOf exInfo' (exDes' "a"))
    (exDes' "a").fields [("name", .str "a"), ("namespace", .str "ns1")] := by
  constructor <;> first | rfl | decide +kernel | (intro _ v hv; simp [lookup] at hv; rw [← hv]; rfl)
example : hypJ ["name"] (exDes' "a") = true := by decide +kernel
-- and the theorem's conclusion, checked on the example by evaluation: the second pass over the stored children is silent
example : (match updateGroup ["name"] ["uid"] [] none exInfo' "ConfigMap" exRef' exObserved exDesired [] with | .ret x => x.1.isEmpty | _ => false) = true := by
  decide +kernel

end C01
end Mc
