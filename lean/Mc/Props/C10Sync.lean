import Mc.Proofs.SyncFootprint
import Mc.Props.C10
/-
  C10 - finalizer, order and halting theorems over the whole `Prog` tree of the syncs
  (continues `Mc/Props/C10.lean`, same namespace): the finalizer is on the parent before any child is
  created, a failed finalizer phase ends the sync, a parent that is being deleted neither claims nor - without
  a finalize hook to honour - writes children.
-/
namespace Mc.C10
open Mc Prog

/-! The configuration used by the examples below. -/

def exCfg : Cfg :=
  { name := "ex", parentGroup := "example.com", parentVersion := "v1", parentKind := "Thing", parentResource := "things",
    parentNamespaced := true, parentHasStatus := true,
    children := [{ apiVersion := "v1", resource := "configmaps", kind := "ConfigMap", namespaced := true, hasStatus := false,
                   method := some "InPlace" }],
    generateSelector := true, parentSelector := none, finalize := true, customize := false, ssa := false, fieldPaths := [] }

def exParent : J :=
  .obj [("apiVersion", .str "example.com/v1"), ("kind", .str "Thing"),
        ("metadata", .obj [("name", .str "a"), ("namespace", .str "ns"), ("uid", .str "u1")])]

/-- the same parent, being deleted, without any finalizer -/
def exDyingParent : J :=
  .obj [("apiVersion", .str "example.com/v1"), ("kind", .str "Thing"),
        ("metadata", .obj [("name", .str "a"), ("namespace", .str "ns"), ("uid", .str "u1"),
                           ("deletionTimestamp", .str "2026-01-01T00:00:00Z")])]

def exCache : Cache := { parents := [exParent], children := [], related := [], revisions := [] }

theorem getFinalizers_setFinalizers (cur : J) (fs : List String) (h : getUID cur ≠ "") :
    getFinalizers (setFinalizers cur fs) = fs := by
  obtain ⟨kvs, inner, rfl, hl⟩ := metadata_of_uid cur h
  have hall : (fs.map J.str).all (fun x => x.str?.isSome) = true := by
    simp [List.all_eq_true, J.str?]
  have hfm := filterMap_str fs
  simp [setFinalizers, setNestedField, J.fields, setNestedFieldKVs, hl, getFinalizers, stringSliceAt, nestedField,
    lookup_setKey_same, hall, hfm]

theorem hasFinalizer_addFinalizerEdit (name : String) (cur upd : J) (hu : getUID cur ≠ "")
    (h : addFinalizerEdit name cur = some upd) : hasFinalizer upd name = true := by
  obtain ⟨_, rfl⟩ := C10_add_edit name cur upd h
  simp [hasFinalizer, getFinalizers_setFinalizers cur _ hu]


/-- the guard of C10: an accepted update of the parent that carries the finalizer - or a live read of the
    parent showing that it already carries it (then no update is needed) -/
def AddGuard (c : Cfg) (pt : Target) (r : Req) (x : Resp) : Prop :=
  r.onTarget pt = true ∧
    ((r.verb? = some .update ∧ hasFinalizer r.body c.finalizer.name = true ∧ x.isErr = false) ∨
     (r.verb? = some .get ∧ ∃ cur, x = .obj cur ∧ hasFinalizer cur c.finalizer.name = true))

/-- C10.5 - no child is created before the parent is known to carry the finalizer -/
theorem C10_add_first_partial (c : Cfg) (cache : Cache) (parent : J) (name : String) (h : Hidden)
    (hf : c.finalize = true) (hn : hasFinalizer parent c.finalizer.name = false) (hd : isDeleting parent = false)
    (hi : c.ignored parent = false) (hu : getUID parent ≠ "") :
    Guarded (AddGuard c (c.parentTarget parent)) (fun r => r.isChildCreate (c.parentTarget parent) = true)
      (syncParentObjectFull c cache parent name h) := by
  rw [syncParentObjectFull_eq, if_neg (by simp [hi]), Finalizer.syncObject_add c.finalizer _ parent hf hn hd]
  apply atomicLoop_guarded_bind
  · simp [Req.isChildCreate_of_not_child _ _ (Req.isChild_self _ _ _ _)]
  · intro b
    simp [Req.isChildCreate_of_not_child _ _ (Req.isChild_self _ _ _ _)]
  · intro cur _ hnone
    exact ⟨Req.onTarget_self _ _ _ _, Or.inr ⟨rfl, cur, rfl, by simpa [addFinalizerEdit] using hnone⟩⟩
  · intro cur upd res hcu hsome
    refine ⟨Req.onTarget_self _ _ _ _, Or.inl ⟨rfl, ?_, rfl⟩⟩
    exact hasFinalizer_addFinalizerEdit _ cur upd (by rw [hcu]; exact hu) hsome
  · intro e
    exact .ret _


/-- why the guard of C10.5 has a second alternative: when the live parent already carries the finalizer, the
    finalizer phase writes nothing and hands the live object to the rest of the sync, which may create children -/
theorem C10_add_skipped_when_present (t : Target) (uid name gone : String) (n : Nat) :
    ∃ k, atomicLoop t uid (addFinalizerEdit name) .update gone (n + 1) = .call (.api .get t .null .null) k ∧
      ∀ cur, getUID cur = uid → hasFinalizer cur name = true → k (.obj cur) = .ret (.ok cur) := by
  rw [atomicLoop_succ]
  refine ⟨_, rfl, fun cur hu hf => ?_⟩
  simp [hu, addFinalizerEdit, hf]

example : Guarded (AddGuard exCfg (exCfg.parentTarget exParent)) (fun r => r.isChildCreate (exCfg.parentTarget exParent) = true)
    (syncParentObjectFull exCfg exCache exParent "rev1" {}) :=
  C10_add_first_partial exCfg exCache exParent "rev1" {} rfl (by decide) (by decide) (by decide) (by decide)

/-- an error answer, other than a Conflict answering a write (those are retried) -/
def PhaseFailed (r : Req) (x : Resp) : Prop := x.isErr = true ∧ (x = .err "Conflict" → r.isWrite = false)

theorem syncObject_stops (fz : Finalizer) (t : Target) (obj : J) :
    StopsAfter PhaseFailed (fun _ => True) PE.IsError (fz.syncObject t obj) := by
  rcases fz.syncObject_cases t obj with h | ⟨f, h⟩
  · rw [h]
    exact .ret _
  · rw [h]
    refine (atomicLoop_halts _ _ _ _ _ (fun _ => True) ?_ _).mono ?_
    · rintro r x ⟨hx, hc⟩
      cases x <;> simp [Resp.isErr] at hx
      refine ⟨_, rfl, trivial, ?_⟩
      rintro rfl b rfl
      simp [Req.isWrite, Req.verb?, Verb.isWrite] at hc
    · rintro _ ⟨e, rfl, _⟩
      exact True.intro

/-- the finalizer phase on its own: after such an error it issues nothing more and returns an error -/
theorem C10_failed_finalizer_phase (fz : Finalizer) (t : Target) (obj : J) :
    HaltsAfterR PhaseFailed (fun _ => True) PE.IsError (fz.syncObject t obj) :=
  haltsAfterR_iff_stopsAfter.mpr (syncObject_stops fz t obj)

/-- C10.6 - `syncParentObjectFull` is the finalizer phase followed by `finalizerCont`; after an error answer
    (not a retried Conflict) to a request of the finalizer phase, the whole sync issues no request any more -/
theorem C10_failed_add_stops (c : Cfg) (cache : Cache) (parent : J) (name : String) (h : Hidden)
    (hi : c.ignored parent = false) :
    syncParentObjectFull c cache parent name h =
      Prog.bind (c.finalizer.syncObject (c.parentTarget parent) parent) (finalizerCont c cache name h) ∧
    HaltsInPrefix PhaseFailed (fun _ => True) (finalizerCont c cache name h)
      (c.finalizer.syncObject (c.parentTarget parent) parent) := by
  refine ⟨by rw [syncParentObjectFull_eq, if_neg (by simp [hi])], ?_⟩
  apply HaltsInPrefix.of_stopsAfter (syncObject_stops _ _ _)
  intro a ha
  cases a with
  | ok p => exact ha.elim
  | error e => exact .ret _

/-- under the hypotheses of C10.5 the finalizer phase does issue requests: it starts with the GET of the parent -/
theorem C10_add_phase_starts_with_get (c : Cfg) (parent : J)
    (hf : c.finalize = true) (hn : hasFinalizer parent c.finalizer.name = false) (hd : isDeleting parent = false) :
    ∃ k, c.finalizer.syncObject (c.parentTarget parent) parent = .call (.api .get (c.parentTarget parent) .null .null) k := by
  rw [Finalizer.syncObject_add c.finalizer _ parent hf hn hd]
  exact ⟨_, rfl⟩

example : HaltsInPrefix PhaseFailed (fun _ => True) (finalizerCont exCfg exCache "rev1" {})
    (exCfg.finalizer.syncObject (exCfg.parentTarget exParent) exParent) :=
  (C10_failed_add_stops exCfg exCache exParent "rev1" {} (by decide +kernel)).2

example : ∃ k, exCfg.finalizer.syncObject (exCfg.parentTarget exParent) exParent =
    .call (.api .get (exCfg.parentTarget exParent) .null .null) k :=
  C10_add_phase_starts_with_get exCfg exParent rfl (by decide +kernel) (by decide +kernel)

/-- C10.7 - a parent observed as being deleted neither adopts nor releases: the claim phases issue no request -/
theorem C10_dying_parent_inert_claims (c : Cfg) (cache : Cache) (parent : J) (hd : isDeleting parent = true) :
    NoQ (fun _ => True) (claimChildren c cache parent) ∧ NoQ (fun _ => True) (claimRevisions c cache parent) :=
  ⟨(claimChildren_sat (tm := true) c cache parent (fun h => by rw [hd] at h; cases h)).calls,
   (claimRevisions_sat (tm := true) c cache parent (fun h => by rw [hd] at h; cases h)).calls⟩

example : NoQ (fun _ => True) (claimChildren exCfg exCache exDyingParent) :=
  (C10_dying_parent_inert_claims exCfg exCache exDyingParent (by decide +kernel)).1

/-- C10.8 - composite: only the parent object itself (status read-modify-write) is touched -/
theorem C10_dying_parent_only_parent (c : Cfg) (parent : J) (observed desired : ObjMap) (status : Option KVs) (memo : Memo)
    (hd : isDeleting parent = true) (hs : c.finalizer.shouldFinalize parent = false) :
    AllCalls (fun r => r.onTarget (c.parentTarget parent) = true) (compositeAct c parent observed desired status memo) := by
  refine (compositeAct_sat (tm := true) c parent observed desired status memo ?_ ?_).calls
  · exact ⟨Req.onTarget_self _ _ _ _, fun b => Req.onTarget_self _ _ _ _, fun b => Req.onTarget_self _ _ _ _⟩
  · simp [hd, hs]

theorem C10_dying_parent_guard (c : Cfg) (parent : J) (observed desired : ObjMap) (status : Option KVs) (memo : Memo)
    (hd : isDeleting parent = true) (hs : c.finalizer.shouldFinalize parent = false) :
    NoQ (fun r => r.isChildWrite (c.parentTarget parent) = true) (compositeAct c parent observed desired status memo) := by
  refine (C10_dying_parent_only_parent c parent observed desired status memo hd hs).mono (fun r hr => ?_)
  simp [Req.isChildWrite, Req.isChild, hr]

/-- C10.8 - decorator: only the decorated object itself is touched (labels / annotations / status edit) -/
theorem C10_dying_parent_only_parent_decorator (c : DCfg) (rule : ParentRes) (parent : J) (observed : ObjMap)
    (resp : DecResp) (memo : Memo) (hd : isDeleting parent = true) (hs : c.finalizer.shouldFinalize parent = false) :
    AllCalls (fun r => r.onTarget (targetOf rule.group rule.resource rule.namespaced (getNamespace parent) (getName parent)) = true)
      (decoratorTail c rule parent observed resp memo) := by
  refine (decoratorTail_sat (tm := true) c rule parent observed resp memo ?_ ?_ ?_).calls
  · exact fun b => Req.onTarget_self _ _ _ _
  · exact fun b => Req.onTarget_self _ _ _ _
  · simp [hd, hs]

theorem C10_dying_parent_guard_decorator (c : DCfg) (rule : ParentRes) (parent : J) (observed : ObjMap)
    (resp : DecResp) (memo : Memo) (hd : isDeleting parent = true) (hs : c.finalizer.shouldFinalize parent = false) :
    NoQ (fun r => r.isChildWrite (targetOf rule.group rule.resource rule.namespaced (getNamespace parent) (getName parent)) = true)
      (decoratorTail c rule parent observed resp memo) := by
  refine (C10_dying_parent_only_parent_decorator c rule parent observed resp memo hd hs).mono (fun r hr => ?_)
  simp [Req.isChildWrite, Req.isChild, hr]

example : NoQ (fun r => r.isChildWrite (exCfg.parentTarget exDyingParent) = true)
    (compositeAct exCfg exDyingParent [] [] none []) :=
  C10_dying_parent_guard exCfg exDyingParent [] [] none [] (by decide +kernel) (by decide +kernel)

example : NoQ (fun _ => True) (claimRevisions exCfg exCache exDyingParent) :=
  (C10_dying_parent_inert_claims exCfg exCache exDyingParent (by decide +kernel)).2

/-- a decorator on the same resource, with one attachment resource and no finalize hook -/
def exRule : ParentRes :=
  { apiVersion := "example.com/v1", resource := "things", kind := "Thing", namespaced := true, hasStatus := true,
    labelSel := none, annSel := none }

def exDCfg : DCfg :=
  { name := "dec", resources := [exRule],
    attachments := [{ apiVersion := "v1", resource := "configmaps", kind := "ConfigMap", namespaced := true, hasStatus := false,
                      method := some "InPlace" }],
    finalize := false, customize := false }

def exDecResp : DecResp :=
  { labels := [("seen", some "yes")], annotations := [], status := none, attachments := [], resyncAfter := 0, finalized := false }

example : NoQ (fun r => r.isChildWrite (targetOf exRule.group exRule.resource exRule.namespaced
      (getNamespace exDyingParent) (getName exDyingParent)) = true)
    (decoratorTail exDCfg exRule exDyingParent [] exDecResp []) :=
  C10_dying_parent_guard_decorator exDCfg exRule exDyingParent [] exDecResp [] (by decide +kernel) (by decide +kernel)

end Mc.C10
