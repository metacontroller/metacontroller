import Mc.Proofs.SyncFootprint
import Mc.Props.C12
/-
  C13 - no panic: whatever the API server and the hooks answer, a sync never ends in a panic;
  a hook answer that cannot be decoded fails the sync before anything is written.
-/
namespace Mc.C13
open Prog PE

/-- the result field of a sync (`syncParentObjectFull`, `syncDecoratorObject`) is no error other than the sync's own (`OwnErr`) -/
abbrev ResOwn (tm : Bool) (r : SyncRes × CustCache) : Prop := ∀ e, r.1.result = .error e → OwnErr tm e

theorem syncParentObjectFull_errs (c : Cfg) (cache : Cache) (parent : J) (newRevName : String) (h : Hidden) :
    AllRets (ResOwn true) (syncParentObjectFull c cache parent newRevName h) := by
  unfold syncParentObjectFull
  refine ite_ind (fun _ => .ret _ (fun e he => by cases he)) (fun _ => ?_)
  refine AllRets.bind (AllRets.trivial _) (fun r _ => ?_)
  rcases r with e | parent'
  · exact .ret _ (fun _ h => by cases h; exact .inl ⟨_, rfl⟩)
  refine ite_ind (fun _ => .ret _ (fun e he => by cases he)) (fun _ => ?_)
  refine AllRets.bind (claimChildren_sat (P := fun _ => True) (tm := true) c cache parent' (by simp)).rets (fun r hr => ?_)
  rcases r with e | observed
  · exact .ret _ (fun _ h => by cases h; exact hr e rfl)
  refine AllRets.bind (getRelatedObjects_sat (P := fun _ => True) (fun _ => trivial) ..).rets (fun r hr => ?_)
  rcases r with e | rc
  · exact .ret _ (fun _ h => by cases h; exact hr e rfl)
  refine AllRets.bind (syncRevisions_sat (P := fun _ => True) (fun _ _ => trivial) c cache parent' observed rc.1 newRevName
    trivial (fun _ _ _ _ => trivial)).rets (fun r hr => ?_)
  rcases r with e | resp
  · exact .ret _ (fun _ h => by cases h; exact hr e rfl)
  exact AllRets.bind (compositeTail_sat (P := fun _ => True) (tm := true) c parent' observed resp h.memo
    (by simp [OnObject]) (by simp [OnInfo])).rets (fun mt hmt => .ret _ hmt)

theorem finalOf_not_panic {tm : Bool} (r : SyncRes) (h : ∀ e, r.result = .error e → OwnErr tm e) :
    (finalOf r).outcome ≠ .panic := by
  intro hp
  obtain ⟨m, hm⟩ := (C12.C12_panic_iff r).mp hp
  rcases h _ hm with ⟨_, h⟩ | ⟨_, _, h⟩ <;> cases h

/-- **C13_total** (composite): whatever the API server and the hooks answer, a composite sync never ends in a panic -/
theorem C13_total (c : Cfg) (cache : Cache) (ns name rev : String) (h : Hidden) :
    AllRets (fun f => f.final.outcome ≠ .panic) (syncCompositeFull c cache ns name rev h) := by
  unfold syncCompositeFull
  split
  · exact .ret _ (by simp)
  · refine AllRets.bind (syncParentObjectFull_errs ..) (fun r hr => ?_)
    exact .ret _ (finalOf_not_panic r.1 hr)

theorem syncDecoratorObject_errs (c : DCfg) (cache : Cache) (rule : ParentRes) (parent : J) (h : Hidden) :
    AllRets (ResOwn false) (syncDecoratorObject c cache rule parent h) := by
  unfold syncDecoratorObject
  refine ite_ind (fun _ => .ret _ (fun e he => by cases he)) (fun _ => ?_)
  refine AllRets.bind (AllRets.trivial _) (fun r _ => ?_)
  rcases r with e | parent'
  · exact .ret _ (fun _ h => by cases h; exact .inl ⟨_, rfl⟩)
  refine ite_ind (fun _ => .ret _ (fun e he => by cases he)) (fun _ => ?_)
  refine AllRets.bind (getRelatedObjects_sat (P := fun _ => True) (fun _ => trivial) ..).rets (fun r hr => ?_)
  -- a 429 of the customize hook arrives as `tooMany` and leaves as a plain failure
  rcases r with (m | n | m) | rc
  · exact .ret _ (fun _ h => by cases h; exact .inl ⟨_, rfl⟩)
  · exact .ret _ (fun _ h => by cases h; exact .inl ⟨_, rfl⟩)
  · rcases hr _ rfl with ⟨_, h⟩ | ⟨_, _, h⟩ <;> cases h
  refine AllRets.bind (callHookDecorator_sat (P := fun _ => True) (tm := false) (fun _ _ => trivial) ..).rets
    (fun r hr => ?_)
  rcases r with e | resp
  · exact .ret _ (fun _ h => by cases h; exact hr e rfl)
  exact AllRets.bind (decoratorTail_sat (P := fun _ => True) (tm := false) c rule parent' _ resp h.memo
    (fun _ => trivial) (fun _ => trivial) (by simp [OnInfo])).rets (fun mt hmt => .ret _ hmt)

/-- **C13_total** (decorator): whatever the API server and the hooks answer, a decorator sync never ends in a panic -/
theorem C13_total_decorator (c : DCfg) (cache : Cache) (apiVersion kind ns name : String) (h : Hidden) :
    AllRets (fun f => f.final.outcome ≠ .panic) (syncDecoratorFull c cache apiVersion kind ns name h) := by
  unfold syncDecoratorFull
  split
  · exact .ret _ (by simp)
  · split
    · exact .ret _ (by simp)
    · refine AllRets.bind (syncDecoratorObject_errs ..) (fun r hr => ?_)
      exact .ret _ (finalOf_not_panic r.1 hr)

/-- decorators never ask for a delayed requeue on their own: their sync result is never `tooMany`
    (a 429 of the hook is a plain failure, see `C12_decorator_429`) -/
theorem C12_decorator_never_tooMany (c : DCfg) (cache : Cache) (rule : ParentRes) (parent : J) (h : Hidden) :
    AllRets (fun r => ∀ n, r.1.result ≠ .error (.tooMany n)) (syncDecoratorObject c cache rule parent h) := by
  refine AllRets.mono ?_ (syncDecoratorObject_errs c cache rule parent h)
  intro r hr n hn
  rcases hr _ hn with ⟨_, h⟩ | ⟨h, _⟩ <;> cases h

/-- the sync / finalize hook answered 200 with a body that cannot be decoded as a composite hook response -/
def BadHookAnswer (r : Req) (x : Resp) : Prop :=
  (∃ name q, r = .hook name q ∧ name ≠ "customize") ∧ ∃ b, x = .hookOk b ∧ (decodeCompResp b).toOption = none

def IsApi (r : Req) : Prop := r.isHook = false

theorem api_not_bad (v : Verb) (t : Target) (b o : J) : ∀ x, ¬ BadHookAnswer (.api v t b o) x := by
  rintro x ⟨⟨name, q, h, _⟩, _⟩
  cases h

theorem customize_not_bad (q : J) : ∀ x, ¬ BadHookAnswer (.hook "customize" q) x := by
  rintro x ⟨⟨name, q', h, hn⟩, _⟩
  cases h
  exact hn rfl

/-- an undecodable answer makes `callHook` fail, with a plain failure -/
theorem C13_reject_fails (c : Cfg) (parent : J) (observed related : ObjMap) :
    ∃ req k, callHookComposite c parent observed related = Prog.call req k ∧ req.isHook = true ∧
      ∀ b e, decodeCompResp b = .error e → ∃ m, k (.hookOk b) = .ret (.error (.fail m)) := by
  unfold callHookComposite
  refine ⟨_, _, rfl, rfl, ?_⟩
  intro b e he
  simp only [Prog.bind, he]
  exact ⟨_, rfl⟩

def isFail (e : Err) : Prop := ∃ m, e = .fail m

theorem callHookComposite_stops_fail (c : Cfg) (parent : J) (observed related : ObjMap) :
    StopsAfter BadHookAnswer IsApi (IsErrP isFail) (callHookComposite c parent observed related : Prog _) := by
  unfold callHookComposite
  dsimp only
  refine stops_request_bind _ _ ?_ ?_
  · intro x
    split
    · split <;> exact .ret _
    all_goals exact .ret _
  · rintro x ⟨_, b, rfl, hb⟩
    dsimp only
    cases hd : decodeCompResp b with
    | error e => exact .ret _ ⟨_, rfl, _, rfl⟩
    | ok r => simp [hd, Except.toOption] at hb

theorem callHookComposite_stops (c : Cfg) (parent : J) (observed related : ObjMap) :
    StopsAfter BadHookAnswer IsApi IsErr (callHookComposite c parent observed related : Prog _) :=
  StopsAfter.mono (fun _ ⟨e, h, _⟩ => ⟨e, h, True.intro⟩) (callHookComposite_stops_fail ..)

theorem callHooks_stops (c : Cfg) (latestParent : J) (observed related : ObjMap) :
    ∀ inputs, StopsAfter BadHookAnswer IsApi HasErr (callHooks c latestParent observed related inputs) := by
  intro inputs
  induction inputs with
  | nil => exact .ret _
  | cons i rest ih =>
    obtain ⟨p, rev, ch⟩ := i
    rw [callHooks]
    refine StopsAfter.bind (callHookComposite_stops c p observed related) (fun r => ?_) ?_
    · refine StopsAfter.bind ih (fun rs => .ret _) ?_
      rintro rs ⟨x, hx, hxe⟩
      exact ⟨.ret _, .ret _ ⟨x, List.mem_cons_of_mem _ hx, hxe⟩⟩
    · rintro r ⟨e, rfl, _⟩
      constructor
      · exact AllCalls.bind (callHooks_sat (fun n q h => by simp [IsApi, Req.isHook] at h) ..).calls (fun rs => .ret _)
      · exact AllRets.bind (AllRets.trivial _) (fun rs _ => .ret _ ⟨_, List.mem_cons_self .., e, rfl⟩)

theorem syncRevisions_stops (c : Cfg) (cache : Cache) (parent : J) (observed related : ObjMap) (newRevName : String) :
    StopsAfter BadHookAnswer IsApi IsErr (syncRevisions c cache parent observed related newRevName : Prog _) := by
  rw [syncRevisions_eq]
  refine ite_ind (fun _ => callHookComposite_stops ..) (fun _ => ?_)
  refine stops_bind (.of_noG (claimRevisions_sat (tm := true) c cache parent
    (fun _ => ⟨api_not_bad _ _ _ _, fun _ => ⟨api_not_bad _ _ _ _, fun _ => api_not_bad _ _ _ _⟩⟩)).calls) (fun revs => ?_)
  -- an undecodable answer can only be met in the hook calls
  refine syncRevisionsFrom_stops c parent observed related newRevName revs (callHooks_stops _ _ _ _) (fun obs des => ?_)
  exact .of_noG (manageRevisions_sat (tm := true) _ obs des (fun _ _ _ _ _ => api_not_bad _ _ _ _)).calls

def ResIsErr (K : Err → Prop) (r : SyncRes × CustCache) : Prop := ∃ e, r.1.result = .error e ∧ K e

theorem syncParentObjectFull_stops_of (K : Err → Prop) (c : Cfg) (cache : Cache) (parent : J) (newRevName : String) (h : Hidden)
    (hrev : ∀ parent' observed related,
      StopsAfter BadHookAnswer IsApi (IsErrP K) (syncRevisions c cache parent' observed related newRevName : Prog _)) :
    StopsAfter BadHookAnswer IsApi (ResIsErr K) (syncParentObjectFull c cache parent newRevName h) := by
  unfold syncParentObjectFull
  refine ite_ind (fun _ => .ret _) (fun _ => ?_)
  refine StopsAfter.bind_noG (syncObject_calls _ _ _ (api_not_bad _ _ _ _) (fun _ => api_not_bad _ _ _ _)) (fun r => ?_)
  rcases r with e | parent'
  · exact .ret _
  refine ite_ind (fun _ => .ret _) (fun _ => ?_)
  refine StopsAfter.bind_noG (claimChildren_sat (tm := true) c cache parent' (by simp [api_not_bad])).calls (fun r => ?_)
  rcases r with e | observed
  · exact .ret _
  refine StopsAfter.bind_noG (getRelatedObjects_sat customize_not_bad ..).calls (fun r => ?_)
  rcases r with e | rc
  · exact .ret _
  refine StopsAfter.bind (hrev ..) (fun r => ?_) ?_
  · rcases r with e | resp
    · exact .ret _
    · exact .of_noG (AllCalls.bind (compositeTail_sat (tm := true) c parent' observed resp h.memo
        (by simp [OnObject, api_not_bad]) (by simp [OnInfo, api_not_bad])).calls (fun _ => .ret _))
  · rintro resp ⟨e, rfl, he⟩
    exact ⟨.ret _, .ret _ ⟨e, rfl, he⟩⟩

/-- **C13, reject => no write, with the outcome**: once a sync / finalize hook has answered with a body that cannot be
    decoded, the sync issues no request to the API server any more - neither read nor write - and ends in an error.
    (With rolling updates the hooks of the other parent revisions are still called: they are not API requests.) -/
theorem C13_reject_stops (c : Cfg) (cache : Cache) (parent : J) (newRevName : String) (h : Hidden) :
    StopsAfter BadHookAnswer IsApi (ResIsErr (fun _ => True)) (syncParentObjectFull c cache parent newRevName h) :=
  syncParentObjectFull_stops_of _ c cache parent newRevName h (fun _ _ _ => syncRevisions_stops ..)

/-- **C13_reject_no_write**: the same without the outcome: after an undecodable hook answer, no request to the API server -/
theorem C13_reject_no_write (c : Cfg) (cache : Cache) (parent : J) (newRevName : String) (h : Hidden) :
    HaltsAfter BadHookAnswer (fun r => r.isHook = false) (syncParentObjectFull c cache parent newRevName h) :=
  (C13_reject_stops c cache parent newRevName h).haltsAfter

/-- without rolling strategies there is one hook call, and its rejection is a plain failure: the key is requeued
    with rate limiting (`C12_error_means_requeue`) -/
theorem C13_reject_fails_sync (c : Cfg) (cache : Cache) (parent : J) (newRevName : String) (h : Hidden)
    (hroll : c.anyRolling = false) :
    StopsAfter BadHookAnswer IsApi (ResIsErr isFail) (syncParentObjectFull c cache parent newRevName h) := by
  refine syncParentObjectFull_stops_of _ c cache parent newRevName h (fun parent' observed related => ?_)
  unfold syncRevisions
  rw [if_pos (by simp [hroll])]
  exact callHookComposite_stops_fail ..

/-- for the whole work item: after the rejection no API request, and (without rolling) the outcome is an error -/
theorem C13_reject_outcome (c : Cfg) (cache : Cache) (ns name newRevName : String) (h : Hidden)
    (hroll : c.anyRolling = false) :
    StopsAfter BadHookAnswer IsApi (fun f => f.final.outcome = .error) (syncCompositeFull c cache ns name newRevName h) := by
  unfold syncCompositeFull
  split
  · exact .ret _
  · refine StopsAfter.bind (C13_reject_fails_sync c cache _ newRevName h hroll) (fun r => .ret _) ?_
    rintro r ⟨e, hr, m, rfl⟩
    refine ⟨.ret _, .ret _ ?_⟩
    simp [finalOf, hr]

/-- the decorator sync / finalize hook answered 200 with a body that cannot be decoded -/
def BadDecAnswer (r : Req) (x : Resp) : Prop :=
  (∃ name q, r = .hook name q ∧ name ≠ "customize") ∧ ∃ b, x = .hookOk b ∧ (decodeDecResp b).toOption = none

theorem api_not_badDec (v : Verb) (t : Target) (b o : J) : ∀ x, ¬ BadDecAnswer (.api v t b o) x := by
  rintro x ⟨⟨name, q, h, _⟩, _⟩
  cases h

theorem customize_not_badDec (q : J) : ∀ x, ¬ BadDecAnswer (.hook "customize" q) x := by
  rintro x ⟨⟨name, q', h, hn⟩, _⟩
  cases h
  exact hn rfl

theorem callHookDecorator_stops (c : DCfg) (parent : J) (observed related : ObjMap) :
    StopsAfter BadDecAnswer IsApi (IsErrP isFail) (callHookDecorator c parent observed related : Prog _) := by
  unfold callHookDecorator
  dsimp only
  refine stops_request_bind _ _ ?_ ?_
  · intro x
    split
    · split <;> exact .ret _
    all_goals exact .ret _
  · rintro x ⟨_, b, rfl, hb⟩
    dsimp only
    cases hd : decodeDecResp b with
    | error e => exact .ret _ ⟨_, rfl, _, rfl⟩
    | ok r => simp [hd, Except.toOption] at hb

/-- **C13_reject_no_write** for decorators: after an undecodable hook answer no request goes to the API server
    and the sync ends in a plain failure -/
theorem C13_reject_no_write_decorator (c : DCfg) (cache : Cache) (rule : ParentRes) (parent : J) (h : Hidden) :
    StopsAfter BadDecAnswer IsApi (ResIsErr isFail) (syncDecoratorObject c cache rule parent h) := by
  unfold syncDecoratorObject
  refine ite_ind (fun _ => .ret _) (fun _ => ?_)
  refine StopsAfter.bind_noG (syncObject_calls _ _ _ (api_not_badDec _ _ _ _) (fun _ => api_not_badDec _ _ _ _)) (fun r => ?_)
  rcases r with e | parent'
  · exact .ret _
  refine ite_ind (fun _ => .ret _) (fun _ => ?_)
  refine StopsAfter.bind_noG (getRelatedObjects_sat customize_not_badDec ..).calls (fun r => ?_)
  rcases r with (m | n | m) | rc
  · exact .ret _
  · exact .ret _
  · exact .ret _
  refine StopsAfter.bind (callHookDecorator_stops ..) (fun r => ?_) ?_
  · rcases r with e | resp
    · exact .ret _
    · exact .of_noG (AllCalls.bind (decoratorTail_sat (tm := false) c rule parent' _ resp h.memo
        (fun _ => api_not_badDec _ _ _ _) (fun _ => api_not_badDec _ _ _ _)
        (by simp [OnInfo, api_not_badDec])).calls (fun _ => .ret _))
  · rintro resp ⟨e, rfl, he⟩
    exact ⟨.ret _, .ret _ ⟨e, rfl, he⟩⟩

def exCfg : Cfg :=
  { name := "cc", parentGroup := "ex", parentVersion := "v1", parentKind := "P", parentResource := "ps",
    parentNamespaced := true, parentHasStatus := true, children := [], generateSelector := true, parentSelector := none,
    finalize := false, customize := false, ssa := false, fieldPaths := [] }
def exParent : J := .obj [("apiVersion", .str "ex/v1"), ("kind", .str "P"),
  ("metadata", .obj [("name", .str "p"), ("namespace", .str "ns"), ("uid", .str "u-p")])]

example : BadHookAnswer (.hook "sync" .null) (.hookOk (.str "not an object")) :=
  ⟨⟨"sync", .null, rfl, by decide +kernel⟩, _, rfl, rfl⟩

-- the sync of this parent starts with the hook call; an undecodable answer ends it at once, as a failure
example : ∃ q k, syncParentObjectFull exCfg { parents := [exParent], children := [], related := [], revisions := [] } exParent "r" {} =
      .call (.hook "sync" q) k ∧
    ∃ m, k (.hookOk (.str "not an object")) = .ret ({ after := [], memo := [], result := .error (.fail m) }, none) :=
  ⟨_, _, rfl, _, rfl⟩

-- while a decodable answer (no children, a status) goes on with the status update of the parent: a GET first
example : ∃ q k k', syncParentObjectFull exCfg { parents := [exParent], children := [], related := [], revisions := [] } exParent "r" {} =
      .call (.hook "sync" q) k ∧
    k (.hookOk (.obj [("status", .obj [("ok", .bool true)])])) = .call (.api .get ⟨"ex", "ps", "ns", "p"⟩ .null .null) k' :=
  ⟨_, _, _, rfl, rfl⟩

end Mc.C13
