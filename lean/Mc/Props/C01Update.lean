import Mc.Props.C01Converge
import Mc.Props.C05
import Mc.Proofs.FixFrame
/-
  C01, field level, for the in-place update path: the object the API server stores for an update sent by
  `ManageChildren` (body = `ApplyUpdate observed desired`) is again a fixpoint of `ApplyUpdate` for the same desired
  object.  Idempotence of the merge (C05) gives the fixpoint for the raw merge result; the frame law
  (`fix_of_editOutside`) carries it over everything that happens to the object afterwards: the reverts of system
  metadata and status, the last-applied record, and the server's own edits (generation, resourceVersion).
-/
namespace Mc
namespace C01
open Api C05

def MetaObj (x : J) : Prop := ∃ xs mx, x = .obj xs ∧ lookup "metadata" xs = some (.obj mx)

theorem editOutside_of (ds dm : KVs) (x y : J) (hx : MetaObj x) (hy : MetaObj y)
    (ha : ∀ k, k ≠ "metadata" → hasKey k ds = true → lookup k y.fields = lookup k x.fields)
    (hb : ∀ f, hasKey f dm = true → lookup f (metaOf y) = lookup f (metaOf x)) : EditOutside ds dm x y := by
  obtain ⟨xs, mx, rfl, hmx⟩ := hx
  obtain ⟨ys, my, rfl, hmy⟩ := hy
  refine ⟨xs, ys, mx, my, rfl, rfl, hmx, hmy, ha, ?_⟩
  intro f hf
  have := hb f hf
  simpa [metaOf, J.fields, hmx, hmy] using this

theorem _root_.Mc.EditOutside.metaObj_right {ds dm : KVs} {x y : J} (h : EditOutside ds dm x y) : MetaObj y := by
  obtain ⟨_, ys, _, my, _, hy, _, hmy, _, _⟩ := h
  exact ⟨ys, my, hy, hmy⟩

/-! Each edit `ApplyUpdate` makes after the merge is an `EditOutside`. -/

theorem revertField_meta_outside (ds dm : KVs) (acc orig y : J) (f : String) (hx : MetaObj acc) (hf : hasKey f dm = false)
    (h : revertField acc orig ["metadata", f] = .ok y) : EditOutside ds dm acc y := by
  obtain ⟨xs, mx, rfl, hmx⟩ := hx
  unfold revertField at h
  split at h
  · cases h
  · simp only [setNestedField_two, J.fields, hmx] at h
    cases h
    exact editOutside_setMeta ds dm xs mx _ hmx fun f' hf' => lookup_setKey_other _ _ _ _ (ne_of_hasKey hf' hf)
  · cases h
    rw [removeNestedField_two]
    simp only [J.fields, hmx]
    refine editOutside_setMeta ds dm xs mx _ hmx fun f' hf' => ?_
    rw [lookup_eraseKey, if_neg (ne_of_hasKey hf' hf)]

theorem revertField_top_outside (ds dm : KVs) (acc orig y : J) (k : String) (hx : MetaObj acc) (hk : k ≠ "metadata") (hf : hasKey k ds = false)
    (h : revertField acc orig [k] = .ok y) : EditOutside ds dm acc y := by
  obtain ⟨xs, mx, rfl, hmx⟩ := hx
  unfold revertField at h
  split at h
  · cases h
  · rw [setNestedField_one] at h
    cases h
    refine ⟨xs, _, mx, mx, rfl, rfl, hmx, ?_, fun k' _ hk' => lookup_setKey_other _ _ _ _ (ne_of_hasKey hk' hf), fun _ _ => rfl⟩
    rw [lookup_setKey_other _ _ _ _ (Ne.symm hk)]
    exact hmx
  · cases h
    rw [removeNestedField_one]
    refine ⟨xs, _, mx, mx, rfl, rfl, hmx, ?_, fun k' _ hk' => ?_, fun _ _ => rfl⟩
    · rw [lookup_eraseKey, if_neg (Ne.symm hk)]
      exact hmx
    · rw [lookup_eraseKey, if_neg (ne_of_hasKey hk' hf)]
      rfl

theorem revertSystemFields_outside (ds dm : KVs) (orig : J) (sys : List String) (acc y : J) (hx : MetaObj acc)
    (hs : ∀ f ∈ sys, hasKey f dm = false) (h : revertSystemFields sys acc orig = .ok y) : EditOutside ds dm acc y := by
  obtain ⟨xs, mx, rfl, hmx⟩ := hx
  refine revertSystemFields_ind (EditOutside ds dm (.obj xs)) sys _ y ?_ (EditOutside.refl ds dm xs mx hmx) h
  intro f hf a a' ha h1
  exact EditOutside.trans ha (revertField_meta_outside ds dm a orig a' f (EditOutside.metaObj_right ha) (hs f hf) h1)

theorem setLastApplied_outside (ds dm : KVs) (x la : J) (hx : MetaObj x) (hf : hasKey "annotations" dm = false) :
    EditOutside ds dm x (setLastApplied x la) := by
  obtain ⟨xs, mx, rfl, hmx⟩ := hx
  rw [setLastApplied_eq, setStringMapAt_two]
  simp only [J.fields, hmx]
  exact editOutside_setMeta ds dm xs mx _ hmx fun f' hf' => lookup_setKey_other _ _ _ _ (ne_of_hasKey hf' hf)

theorem setLastApplied_annotations (x la : J) (hx : MetaObj x) (hla : la.isObj = true) :
    ∃ am, lookup "annotations" (metaOf (setLastApplied x la)) = some (.obj am) ∧
      am.all (fun kv => isStringish kv.1 kv.2) = true ∧ lookup lastAppliedAnnotation am = some la := by
  obtain ⟨xs, mx, rfl, hmx⟩ := hx
  have hall : ((getAnnotations (.obj xs)).getD []).all (fun kv => isStringish kv.1 kv.2) = true := by
    unfold getAnnotations stringMapAt
    split
    · split
      · rename_i h; simpa using h
      · rfl
    · rfl
  refine ⟨setKey lastAppliedAnnotation la ((getAnnotations (.obj xs)).getD []), ?_, ?_, lookup_setKey_same _ _ _⟩
  · unfold setLastApplied setStringMapAt
    simp only [setNestedField, setNestedFieldKVs, J.fields, hmx]
    simp [metaOf, J.fields, lookup_setKey_same]
  · refine all_setKey _ _ _ _ hall ?_
    cases la <;> simp [J.isObj] at hla
    simp [isStringish]

theorem fix_obj_isObj (mks : List String) (ds : KVs) (x : J) (h : Fix mks (.obj ds) x) : ∃ xs, x = .obj xs := by
  cases x with
  | obj xs => exact ⟨xs, rfl⟩
  | arr xs =>
    rw [Fix, merge_arr] at h
    cases h
  | _ =>
    rw [Fix, merge_scalar rfl rfl] at h
    cases h

theorem fix_metaObj (mks : List String) (ds dm : KVs) (hu : uniq ds) (hmeta : lookup "metadata" ds = some (.obj dm)) (x : J)
    (h : Fix mks (.obj ds) x) : MetaObj x := by
  obtain ⟨xs, rfl⟩ := fix_obj_isObj mks ds x h
  rw [fix_obj_iff mks ds xs hu] at h
  obtain ⟨m, hm, hf⟩ := h "metadata" (.obj dm) (lookup_mem _ _ _ hmeta)
  obtain ⟨mx, rfl⟩ := fix_obj_isObj mks dm m hf
  exact ⟨xs, mx, rfl, hm⟩

/-- what the hook's desired child must not do for the theorems of this file (`sys` = the system metadata fields) -/
structure PlainUpdate (sys : List String) (ds dm : KVs) : Prop where
  hmeta : lookup "metadata" ds = some (.obj dm)
  hstatus : hasKey "status" ds = false
  hann : hasKey "annotations" dm = false
  hsys : ∀ f ∈ sys, hasKey f dm = false
  hgen : hasKey "generation" dm = false
  hrv : hasKey "resourceVersion" dm = false

theorem nullify_plain (sys : List String) (ds dm : KVs) (h : PlainUpdate sys ds dm) : nullifyLastApplied (.obj ds) = .obj ds := by
  unfold nullifyLastApplied getAnnotations stringMapAt
  rw [nestedField_obj_two "annotations" h.hmeta]
  have : lookup "annotations" dm = none := (hasKey_false_iff _ _).mp h.hann
  rw [this]

/-- **the result of `ApplyUpdate` is a merge fixpoint** (for a desired child that does not set server-owned metadata,
    annotations or status; idempotence hypotheses of C05 on the inputs) and still has a metadata map -/
theorem applyUpdate_result_fix (mks sys : List String) (obs new : J) (ds dm : KVs) (hp : PlainUpdate sys ds dm)
    (ho : hypS mks obs = true) (hd : hypS mks (.obj ds) = true) (hc : coh mks obs (.obj ds) = true)
    (hs : scalarKeys mks obs = true) (hn : noNullOverArr obs (.obj ds) = true)
    (h : applyUpdate mks sys obs (.obj ds) = .ok new) :
    Fix mks (.obj ds) new ∧ MetaObj new ∧ ∃ am, lookup "annotations" (metaOf new) = some (.obj am) ∧
      am.all (fun kv => isStringish kv.1 kv.2) = true ∧ lookup lastAppliedAnnotation am = some (.obj ds) := by
  have hhyp : hypJ mks (.obj ds) = true := hypS_hypJ hd
  obtain ⟨hu, hf⟩ := hypJ_obj.mp hhyp
  have hudm : uniq dm := (hypJ_obj.mp (hf "metadata" (.obj dm) (lookup_mem _ _ _ hp.hmeta))).1
  obtain ⟨last, r, r1, r2, _, hm, h1, h2, rfl⟩ := applyUpdate_inv _ _ _ _ _ h
  rw [nullify_plain sys ds dm hp] at hm ⊢
  have hfix : Fix mks (.obj ds) r := C05_idempotent_inputs mks obs last (.obj ds) r ho hd hc hs hn hm
  have e1 := revertSystemFields_outside ds dm obs sys r r1 (fix_metaObj mks ds dm hu hp.hmeta r hfix) hp.hsys h1
  have e2 := revertField_top_outside ds dm r1 obs r2 "status" e1.metaObj_right (by decide) hp.hstatus h2
  have e := (e1.trans e2).trans (setLastApplied_outside ds dm r2 (.obj ds) e2.metaObj_right hp.hann)
  exact ⟨fix_of_editOutside mks ds dm hu hudm hp.hmeta r _ hfix e, e.metaObj_right,
    setLastApplied_annotations r2 (.obj ds) e2.metaObj_right rfl⟩

theorem metaObj_withMeta (o : J) (m : KVs) : MetaObj (withMeta o m) := ⟨_, m, rfl, lookup_setKey_same _ _ _⟩

theorem metaObj_keepStatus (cur o : J) (h : MetaObj o) : MetaObj (keepStatus cur o) := by
  obtain ⟨xs, mx, rfl, hmx⟩ := h
  have := lookup_top_keepStatus cur (.obj xs) "metadata" (by decide)
  cases hk : keepStatus cur (.obj xs) with
  | obj ys => rw [hk] at this; exact ⟨ys, mx, rfl, this.trans hmx⟩
  | _ =>
    unfold keepStatus at hk
    split at hk <;> cases hk

theorem updated_lookups (d : ResDef) (cur body : J) :
    MetaObj (updated d cur body) ∧
    (∀ k, k ≠ "metadata" → k ≠ "status" → lookup k (updated d cur body).fields = lookup k body.fields) ∧
    (∀ k, k ≠ "generation" → lookup k (metaOf (updated d cur body)) =
        if k ∈ updateKeep then lookup k (metaOf cur) else lookup k (metaOf body)) := by
  refine updated_ind (fun o => MetaObj o ∧
      (∀ k, k ≠ "metadata" → k ≠ "status" → lookup k o.fields = lookup k body.fields) ∧
      (∀ k, k ≠ "generation" → lookup k (metaOf o) =
        if k ∈ updateKeep then lookup k (metaOf cur) else lookup k (metaOf body))) d cur body
    ⟨metaObj_withMeta _ _, ?_, ?_⟩ ?_ ?_
  · intro k hk _
    rw [lookup_top_withMeta _ _ _ hk]
  · intro k _
    rw [metaOf_withMeta, lookup_copyMeta]
  · rintro o ⟨b1, b2, b3⟩
    refine ⟨metaObj_keepStatus _ _ b1, ?_, ?_⟩
    · intro k hk hs
      rw [lookup_top_keepStatus _ _ _ hs]
      exact b2 k hk hs
    · intro k hk
      rw [metaOf_keepStatus]
      exact b3 k hk
  · rintro o n ⟨_, b2, b3⟩
    refine ⟨metaObj_withMeta _ _, ?_, ?_⟩
    · intro k hk hs
      rw [lookup_top_setMeta _ _ _ _ hk]
      exact b2 k hk hs
    · intro k hk
      rw [lookup_meta_setMeta _ _ _ _ hk]
      exact b3 k hk

/-- **the stored object after an accepted update**: the old one (nothing changed), or the request body edited only
    outside what the desired object mentions - provided the desired object's name / namespace (if it has them) are
    the live object's, which is how the child was found -/
theorem update_post_outside (ds dm : KVs) (d : ResDef) (cur body : J) (f : Fresh) (hb : MetaObj body)
    (hkeep : ∀ k ∈ updateKeep, hasKey k dm = true → lookup k (metaOf cur) = lookup k (metaOf body))
    (hgen : hasKey "generation" dm = false) (hrv : hasKey "resourceVersion" dm = false) (hstatus : hasKey "status" ds = false)
    (o' : J) (hpost : (update d (some cur) body f).post = some o') :
    o' = cur ∨ (EditOutside ds dm body o' ∧ lookup "annotations" (metaOf o') = lookup "annotations" (metaOf body)) := by
  rcases update_post_shape d cur body f o' hpost with h | ⟨x, h⟩
  · exact .inl h
  · right
    obtain ⟨u1, u2, u3⟩ := updated_lookups d cur body
    subst h
    refine ⟨editOutside_of ds dm body _ hb (metaObj_withMeta _ _) ?_ ?_, ?_⟩
    · intro k hk hh
      have hs : k ≠ "status" := ne_of_hasKey hh hstatus
      rw [lookup_top_setMeta _ _ _ _ hk, lookup_top_setMeta _ _ _ _ hk]
      exact u2 k hk hs
    · intro k hh
      have h1 : k ≠ "resourceVersion" := ne_of_hasKey hh hrv
      have h2 : k ≠ "generation" := ne_of_hasKey hh hgen
      rw [lookup_meta_setMeta _ _ _ _ h1, lookup_meta_setMeta _ _ _ _ h1, u3 k h2]
      split
      · rename_i hk; exact hkeep k hk hh
      · rfl
    · rw [lookup_meta_setMeta _ _ _ _ (by decide), lookup_meta_setMeta _ _ _ _ (by decide), u3 "annotations" (by decide)]
      rw [if_neg (by decide)]

/-- **C01, in-place update path, field level**: the child is observed as `obs`; `ManageChildren` sends
    `ApplyUpdate obs des` as an update and the API server accepts it, storing `o'` (not the old object: something
    changed).  Then `o'` is a fixpoint of `ApplyUpdate` for `des`, so the next sync - from a cache showing `o'` -
    decides "nothing to do", for every update strategy.
    Hypotheses: `des` does not set server-owned metadata, annotations or status (`PlainUpdate`); the idempotence
    hypotheses of C05 on the inputs; for server-owned metadata that `des` does mention (name, namespace) the request
    body carries the live value; stored objects are well-formed JSON (no duplicate keys). -/
theorem C01_updated_child_is_settled (mks sys : List String) (method : String) (d : ResDef) (obs new o' : J) (ds dm : KVs) (f : Fresh)
    (hp : PlainUpdate sys ds dm)
    (ho : hypS mks obs = true) (hd : hypS mks (.obj ds) = true) (hc : coh mks obs (.obj ds) = true)
    (hs : scalarKeys mks obs = true) (hn : noNullOverArr obs (.obj ds) = true)
    (hnew : applyUpdate mks sys obs (.obj ds) = .ok new)
    (hkeep : ∀ k ∈ updateKeep, hasKey k dm = true → lookup k (metaOf obs) = lookup k (metaOf new))
    (hpost : (update d (some obs) new f).post = some o') (hchanged : o' ≠ obs) (hwf : o'.wfB = true) :
    applyUpdate mks sys o' (.obj ds) = .ok o' ∧ updateAct mks sys method o' (.obj ds) = .none := by
  have hhyp : hypJ mks (.obj ds) = true := hypS_hypJ hd
  obtain ⟨hu, hf⟩ := hypJ_obj.mp hhyp
  have hudm : uniq dm := (hypJ_obj.mp (hf "metadata" (.obj dm) (lookup_mem _ _ _ hp.hmeta))).1
  obtain ⟨hfix, hmo, am, ha1, ha2, ha3⟩ := applyUpdate_result_fix mks sys obs new ds dm hp ho hd hc hs hn hnew
  rcases update_post_outside ds dm d obs new f hmo hkeep hp.hgen hp.hrv hp.hstatus o' hpost with e | ⟨e, hann⟩
  · exact absurd e hchanged
  · have hfix' : Fix mks (.obj ds) o' := fix_of_editOutside mks ds dm hu hudm hp.hmeta new o' hfix e
    obtain ⟨os, m, rfl, hm⟩ := EditOutside.metaObj_right e
    have hmo' : metaOf (.obj os) = m := by simp [metaOf, J.fields, hm]
    rw [hmo'] at hann
    have hid : applyUpdate mks sys (.obj os) (.obj ds) = .ok (.obj os) :=
      applyUpdate_of_fix mks sys (.obj os) (.obj ds) os m am rfl rfl hm (hann.trans ha1) ha2 ha3 (nullify_plain sys ds dm hp) hfix'
    exact ⟨hid, C01_equal_is_fix mks sys method _ _ _ hid (J.eqv_refl _ hwf)⟩

/-! The hypotheses of `C01_updated_child_is_settled` hold on a concrete history: create with image v1, then the hook wants v2. -/
section Examples
def exCM : ResDef := { group := "", resource := "configmaps", namespaced := true, hasStatus := false }
def exObs2 : J := (exS1.find (tgtOf exInfo' (exDes' "a"))).getD .null
def exDes2 : J := .obj [("apiVersion", .str "v1"), ("kind", .str "ConfigMap"),
  ("metadata", .obj [("name", .str "a"), ("namespace", .str "ns1")]), ("data", .obj [("image", .str "v2")])]
def exNew2 : J := match applyUpdate ["name"] Generated.objectMetaSystemFields exObs2 exDes2 with | .ok n => n | .error _ => .null
def exStored2 : J := ((update exCM (some exObs2) exNew2 { rv := "7", uid := "uid-7", now := "t7" }).post).getD .null

example : PlainUpdate Generated.objectMetaSystemFields exDes2.fields [("name", .str "a"), ("namespace", .str "ns1")] := by
  constructor <;> first | rfl | decide +kernel
example : hypS ["name"] exObs2 = true ∧ hypS ["name"] exDes2 = true ∧ coh ["name"] exObs2 exDes2 = true ∧
    scalarKeys ["name"] exObs2 = true ∧ noNullOverArr exObs2 exDes2 = true := by decide +kernel
example : (match applyUpdate ["name"] Generated.objectMetaSystemFields exObs2 exDes2 with | .ok _ => true | .error _ => false) = true := by decide +kernel
-- the update is accepted, changes the stored object, and the stored object is well-formed
example : (update exCM (some exObs2) exNew2 { rv := "7", uid := "uid-7", now := "t7" }).ok = true ∧
    exStored2.beq exObs2 = false ∧ exStored2.wfB = true ∧ strAt exStored2 ["data", "image"] = "v2" := by decide +kernel
-- the conclusion, evaluated: ApplyUpdate leaves the stored object alone, the decision is "nothing to do"
example : (match applyUpdate ["name"] Generated.objectMetaSystemFields exStored2 exDes2 with | .ok x => x.beq exStored2 | .error _ => false) = true := by decide +kernel
example : (match updateAct ["name"] Generated.objectMetaSystemFields "InPlace" exStored2 exDes2 with | .none => true | _ => false) = true := by decide +kernel
end Examples

end C01
end Mc
