import Mc.Sync.Common
/-
  C04 - adoption and release obey the ControllerRef rules.
  The decision table of `ClaimObject`, stated row by row for every object, selector outcome and
  parent; the owner-reference edits touch only the parent's own reference.  (Creation: `C02_create_owner` and
  its neighbours in C02; the same edits on the live object: `Atomic.C04_adopt_on_live` / `C04_release_on_live`.)
-/
namespace Mc.C04

/-- an object controlled by another owner is left alone even if its labels match -/
theorem C04_foreign_left_alone (parentUid : String) (deleting matches_ : Bool) (obj : J) (ref : OwnerRef)
    (h : controllerOf obj = some ref) (hne : ref.uid ≠ parentUid) :
    claimDecision parentUid deleting matches_ obj = .ignore := by
  simp [claimDecision, h, hne]

/-- ours and matching: kept, no request -/
theorem C04_ours_matching_kept (parentUid : String) (deleting : Bool) (obj : J) (ref : OwnerRef)
    (h : controllerOf obj = some ref) (hu : ref.uid = parentUid) :
    claimDecision parentUid deleting true obj = .keep := by
  simp [claimDecision, h, hu]

/-- ours but no longer matching: released, unless the parent is being deleted -/
theorem C04_ours_unmatched (parentUid : String) (deleting : Bool) (obj : J) (ref : OwnerRef)
    (h : controllerOf obj = some ref) (hu : ref.uid = parentUid) :
    claimDecision parentUid deleting false obj = (if deleting then .ignore else .release) := by
  cases deleting <;> simp [claimDecision, h, hu]

/-- an orphan is adopted exactly when it matches, is not being deleted and the (observed) parent is not being deleted -/
theorem C04_orphan (parentUid : String) (deleting matches_ : Bool) (obj : J) (h : controllerOf obj = none) :
    claimDecision parentUid deleting matches_ obj =
      (if !deleting && matches_ && !isDeleting obj then .adopt else .ignore) := by
  cases deleting <;> cases matches_ <;> cases hd : isDeleting obj <;> simp [claimDecision, h, hd]

/-- a parent observed as being deleted neither adopts nor releases -/
theorem C04_deleting_parent_inert (parentUid : String) (matches_ : Bool) (obj : J) :
    claimDecision parentUid true matches_ obj ≠ .adopt ∧ claimDecision parentUid true matches_ obj ≠ .release := by
  unfold claimDecision
  cases h : controllerOf obj with
  | none => simp
  | some ref =>
    by_cases hu : ref.uid = parentUid <;> cases matches_ <;> simp [hu]

/-- adoption only ever happens to orphans -/
theorem C04_adopt_only_orphans (parentUid : String) (deleting matches_ : Bool) (obj : J)
    (h : claimDecision parentUid deleting matches_ obj = .adopt) :
    controllerOf obj = none ∧ matches_ = true ∧ deleting = false ∧ isDeleting obj = false := by
  unfold claimDecision at h
  cases hc : controllerOf obj with
  | some ref =>
    simp only [hc] at h
    by_cases hu : ref.uid = parentUid <;> cases matches_ <;> cases deleting <;> simp_all
  | none =>
    simp only [hc] at h
    cases deleting <;> cases matches_ <;> cases hd : isDeleting obj <;> simp_all

/-- release removes only the parent's reference: every other reference is kept, in order -/
theorem C04_release_minimal (refs : List OwnerRef) (uid : String) :
    removeOwnerReference refs uid = refs.filter (·.uid != uid) ∧
    ∀ r ∈ refs, r.uid ≠ uid → r ∈ removeOwnerReference refs uid := by
  refine ⟨rfl, ?_⟩
  intro r hr hne
  simp [removeOwnerReference, List.mem_filter, hr, hne]

theorem map_replace_filter (refs : List OwnerRef) (add : OwnerRef) :
    (refs.map (fun r => if r.uid == add.uid then add else r)).filter (·.uid != add.uid) = refs.filter (·.uid != add.uid) := by
  induction refs with
  | nil => rfl
  | cons x xs ih =>
    by_cases hx : x.uid = add.uid
    · simpa [hx] using ih
    · simpa [hx] using ih

/-- adoption keeps every reference of another owner, in order, and ours is present afterwards -/
theorem C04_adopt_minimal (refs : List OwnerRef) (add : OwnerRef) :
    (addOwnerReference refs add).filter (·.uid != add.uid) = refs.filter (·.uid != add.uid) ∧
    add ∈ addOwnerReference refs add := by
  unfold addOwnerReference
  split
  · rename_i h
    refine ⟨map_replace_filter refs add, ?_⟩
    simp only [List.any_eq_true, beq_iff_eq] at h
    obtain ⟨x, hx, hxu⟩ := h
    simp only [List.mem_map]
    exact ⟨x, hx, by simp [hxu]⟩
  · constructor
    · simp [List.filter_append]
    · simp

end Mc.C04
