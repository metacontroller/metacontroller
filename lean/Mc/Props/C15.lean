import Mc.Sync.Related
import Mc.Proofs.ObjMapLemmas
import Mc.Proofs.ProgLemmas
/-
  C15 - related objects: how a rule selects (by labels / by namespace and names / invalid), what is
  listed is what triggers, invalid and foreign-namespace rules are errors.  Of "asked at most once per parent UID and
  generation" the model holds what one sync can see: the cache entry for this parent's (UID, generation) is handed
  in as `CustCache`; a cached answer means no hook call, and the answer of a call is what gets cached.
-/
namespace Mc.C15

theorem C15_selection_type_invalid (r : RelRule) :
    selectionType r = .invalid ↔ r.labelSelector.isSome = true ∧ (r.ns ≠ "" ∨ r.names ≠ []) := by
  unfold selectionType
  cases r.labelSelector <;> cases r.names <;> by_cases h : r.ns = "" <;> simp [h]

theorem C15_selection_type_byNames (r : RelRule) :
    selectionType r = .byNames ↔ r.labelSelector = none ∧ (r.ns ≠ "" ∨ r.names ≠ []) := by
  unfold selectionType
  cases r.labelSelector <;> cases r.names <;> by_cases h : r.ns = "" <;> simp [h]

theorem C15_selection_type_byLabels (r : RelRule) :
    selectionType r = .byLabels ↔ r.ns = "" ∧ r.names = [] := by
  unfold selectionType
  cases r.labelSelector <;> cases r.names <;> by_cases h : r.ns = "" <;> simp [h]

example : selectionType { apiVersion := "v1", resource := "secrets", labelSelector := some {}, ns := "x", names := [] } = .invalid ∧
    selectionType { apiVersion := "v1", resource := "secrets", labelSelector := none, ns := "", names := ["a"] } = .byNames ∧
    selectionType { apiVersion := "v1", resource := "secrets", labelSelector := some {}, ns := "", names := [] } = .byLabels ∧
    selectionType { apiVersion := "v1", resource := "secrets", labelSelector := none, ns := "", names := [] } = .byLabels := by
  decide +kernel

def relPool (cache : Cache) (res : ChildRes) : List J := (cache.related.lookup res.resource).getD []

def findRes (relRes : List ChildRes) (rule : RelRule) : Option ChildRes :=
  relRes.find? (fun r => r.apiVersion == rule.apiVersion && r.resource == rule.resource)

/-- `pns` = the parent's namespace -/
def selLabels (parentNamespaced : Bool) (pns : String) (pool : List J) (sel : Selector) : List J :=
  (if parentNamespaced then pool.filter (fun o => getNamespace o == pns) else pool).filter (fun o => sel.matches (labelsOf o))

def selNames (pool : List J) (rule : RelRule) : List J :=
  let all := if rule.ns != "" then pool.filter (fun o => getNamespace o == rule.ns) else pool
  if rule.names.isEmpty then all else all.filter (fun o => rule.names.contains (getName o))

theorem mem_selLabels (pn : Bool) (pns : String) (pool : List J) (sel : Selector) (o : J) :
    o ∈ selLabels pn pns pool sel ↔
      o ∈ pool ∧ (pn = true → getNamespace o = pns) ∧ sel.matches (labelsOf o) = true := by
  unfold selLabels
  cases pn <;> simp [and_comm]

theorem mem_selNames (pool : List J) (rule : RelRule) (o : J) :
    o ∈ selNames pool rule ↔
      o ∈ pool ∧ (rule.ns = "" ∨ getNamespace o = rule.ns) ∧ (rule.names = [] ∨ getName o ∈ rule.names) := by
  unfold selNames
  by_cases hn : rule.ns = "" <;> cases hl : rule.names <;> simp [hn, and_comm]

def resGVK (res : ChildRes) : GVK :=
  { group := (parseAPIVersion res.apiVersion).1, version := (parseAPIVersion res.apiVersion).2, kind := res.kind }

/-- one step of the fold in `GetRelatedObjects` -/
def relStep (parentNamespaced : Bool) (relRes : List ChildRes) (cache : Cache) (pns : String)
    (m : ObjMap) (orule : Option RelRule) : PE ObjMap :=
  match orule with
  | none => pure m
  | some rule =>
    match findRes relRes rule with
    | none => PE.fail "discovery: can't find resource"
    | some res =>
      match selectionType rule with
      | .invalid => PE.fail "related rule cannot have both labelSelector and Namespace/Names specified"
      | .byLabels =>
          match relSelector rule with
          | .error e => PE.fail e
          | .ok sel =>
            pure ((selLabels parentNamespaced pns (relPool cache res) sel).foldl (fun acc o => acc.insertUniform o) (m.initGroup (resGVK res)))
      | .byNames =>
          if parentNamespaced && rule.ns != "" && pns != rule.ns then
            PE.fail "requested related object namespace differs from parent object namespace"
          else
            pure ((selNames (relPool cache res) rule).foldl (fun acc o => acc.insertUniform o) (m.initGroup (resGVK res)))

theorem getRelatedObjects_eq (parentNamespaced : Bool) (relRes : List ChildRes) (cache : Cache) (parent : J) (cached : CustCache) :
    getRelatedObjects true parentNamespaced relRes cache parent cached =
      PE.bind (customizeResponse parent cached) (fun bc =>
        PE.bind (PE.ofExcept (decodeCustomizeResp bc.1)) (fun rules =>
          PE.bind (rules.foldlM (relStep parentNamespaced relRes cache (getNamespace parent)) []) (fun m =>
            PE.pure (m, bc.2)))) := rfl


/-- by labels: whatever the selector of the rule accepts, the trigger predicate accepts -/
theorem C15_byLabels_triggers (parentNamespaced : Bool) (parent o : J) (rule : RelRule) (kind : String) (sel : Selector)
    (hty : selectionType rule = .byLabels) (hsel : relSelector rule = .ok sel)
    (hgvk : getAPIVersion o = rule.apiVersion ∧ getKind o = kind)
    (hm : sel.matches (labelsOf o) = true) :
    matchesRelatedRule parentNamespaced parent o rule kind = .ok true := by
  unfold matchesRelatedRule
  simp [hgvk.1, hgvk.2, hty, hsel, hm, Except.map]

/-- by names: the namespace / names filter of the selection implies the trigger predicate, for an
    object in the parent's namespace when the parent is namespaced -/
theorem C15_byNames_triggers (parentNamespaced : Bool) (parent o : J) (rule : RelRule) (kind : String) (pool : List J)
    (hty : selectionType rule = .byNames)
    (hok : ¬ (parentNamespaced = true ∧ rule.ns ≠ "" ∧ getNamespace parent ≠ rule.ns))
    (hgvk : getAPIVersion o = rule.apiVersion ∧ getKind o = kind)
    (hns : parentNamespaced = true → getNamespace o = getNamespace parent)
    (hm : o ∈ selNames pool rule) :
    matchesRelatedRule parentNamespaced parent o rule kind = .ok true := by
  obtain ⟨_, hrns, hnames⟩ := (mem_selNames pool rule o).1 hm
  unfold matchesRelatedRule
  simp only [hgvk.1, hgvk.2, beq_self_eq_true, Bool.and_self, Bool.not_true, Bool.false_eq_true, if_false, hty]
  cases hp : parentNamespaced with
  | true =>
    have hns' := hns hp
    simp only [if_true]
    by_cases h1 : rule.ns = ""
    · simp [h1, hns', hnames]
    · have h2 : getNamespace parent = rule.ns := Classical.byContradiction fun h2 => hok ⟨hp, h1, h2⟩
      have h3 : getNamespace o = rule.ns := hns'.trans h2
      simp [h2, h3, hnames]
  | false =>
    simp only [Bool.false_eq_true, if_false]
    by_cases h1 : rule.ns = ""
    · simp [h1, hnames]
    · simp [hrns.resolve_left h1, hnames]


/-- what the selection of one rule lets through -/
def Selected (parentNamespaced : Bool) (pns : String) (pool : List J) (rule : RelRule) (o : J) : Prop :=
  (∃ sel, selectionType rule = .byLabels ∧ relSelector rule = .ok sel ∧ o ∈ selLabels parentNamespaced pns pool sel) ∨
  (selectionType rule = .byNames ∧ ¬ (parentNamespaced = true ∧ rule.ns ≠ "" ∧ pns ≠ rule.ns) ∧ o ∈ selNames pool rule)

theorem mem_pool_of_selected {parentNamespaced : Bool} {pns : String} {pool : List J} {rule : RelRule} {o : J}
    (h : Selected parentNamespaced pns pool rule o) : o ∈ pool := by
  rcases h with ⟨sel, _, _, h⟩ | ⟨_, _, h⟩
  · exact ((mem_selLabels ..).1 h).1
  · exact ((mem_selNames ..).1 h).1

/-- selected ⇒ triggers (both selection types) -/
theorem C15_selected_triggers (parentNamespaced : Bool) (parent o : J) (rule : RelRule) (kind : String) (pool : List J)
    (hsel : Selected parentNamespaced (getNamespace parent) pool rule o)
    (hgvk : getAPIVersion o = rule.apiVersion ∧ getKind o = kind)
    (hns : parentNamespaced = true → getNamespace o = getNamespace parent) :
    matchesRelatedRule parentNamespaced parent o rule kind = .ok true := by
  rcases hsel with ⟨sel, hty, hs, hm⟩ | ⟨hty, hok, hm⟩
  · exact C15_byLabels_triggers parentNamespaced parent o rule kind sel hty hs hgvk ((mem_selLabels ..).1 hm).2.2
  · exact C15_byNames_triggers parentNamespaced parent o rule kind pool hty hok hgvk hns hm

theorem relStep_spec (parentNamespaced : Bool) (relRes : List ChildRes) (cache : Cache) (pns : String)
    (m : ObjMap) (orule : Option RelRule) :
    ∃ x, relStep parentNamespaced relRes cache pns m orule = Prog.ret x ∧
      ∀ m', x = .ok m' → ∀ o ∈ m'.list, o ∈ m.list ∨
        ∃ rule res, orule = some rule ∧ findRes relRes rule = some res ∧
          Selected parentNamespaced pns (relPool cache res) rule o := by
  unfold relStep
  cases orule with
  | none => exact ⟨_, rfl, fun m' hm' o ho => by cases hm'; exact Or.inl ho⟩
  | some rule =>
    simp only []
    cases hres : findRes relRes rule with
    | none => exact ⟨_, rfl, nofun⟩
    | some res =>
      simp only []
      cases hty : selectionType rule with
      | invalid => exact ⟨_, rfl, nofun⟩
      | byLabels =>
        simp only []
        cases hsel : relSelector rule with
        | error e => exact ⟨_, rfl, nofun⟩
        | ok sel =>
          refine ⟨_, rfl, fun m' hm' o ho => ?_⟩
          cases hm'
          exact (mem_list_addGroup ho).imp_right fun h => ⟨rule, res, rfl, hres, Or.inl ⟨sel, hty, hsel, h⟩⟩
      | byNames =>
        simp only []
        by_cases hc : (parentNamespaced && rule.ns != "" && pns != rule.ns) = true
        · rw [if_pos hc]
          exact ⟨_, rfl, nofun⟩
        · rw [if_neg hc]
          refine ⟨_, rfl, fun m' hm' o ho => ?_⟩
          cases hm'
          refine (mem_list_addGroup ho).imp_right fun h => ⟨rule, res, rfl, hres, Or.inr ⟨hty, ?_, h⟩⟩
          intro ⟨h1, h2, h3⟩
          apply hc
          simp [h1, h2, h3]

/-- C15 "asked at most once per (UID, generation)", as far as one sync sees it (`CustCache` is that cache entry):
    a cached answer is used as is, no hook call -/
theorem C15_once_per_generation_cached (parent b : J) :
    customizeResponse parent (some b) = PE.pure (b, some b) := rfl

/-- ... and after a call, the answer is what gets cached -/
theorem C15_once_per_generation_stored (parent : J) (cached : CustCache) :
    PE.AllOk (fun bc => bc.2 = some bc.1 ∧ ∀ b, cached = some b → bc.1 = b) (customizeResponse parent cached) := by
  cases cached with
  | some b => exact PE.AllOk.pure ⟨rfl, fun b' hb => by cases hb; rfl⟩
  | none =>
    unfold customizeResponse
    simp only [bind, pure]
    apply PE.AllOk.bind (PE.AllOk.lift (Prog.AllRets.trivial _))
    intro r _
    cases r with
    | hookOk body => exact PE.AllOk.pure ⟨rfl, fun b hb => by cases hb⟩
    | hook429 n => exact PE.AllOk.throw _
    | hookErr k => exact PE.AllOk.fail _
    | obj o => exact PE.AllOk.fail _
    | err e => exact PE.AllOk.fail _

theorem foldlM_relStep (parentNamespaced : Bool) (relRes : List ChildRes) (cache : Cache) (pns : String) :
    ∀ (rules : List (Option RelRule)) (m : ObjMap),
      ∃ x, List.foldlM (relStep parentNamespaced relRes cache pns) m rules = Prog.ret x ∧
        ∀ orule ∈ rules, (∀ m, ∃ msg, relStep parentNamespaced relRes cache pns m orule = PE.fail msg) → ∃ e, x = .error e := by
  intro rules
  induction rules with
  | nil => intro m; exact ⟨_, rfl, nofun⟩
  | cons r rest ih =>
    intro m
    rw [PE.foldlM_cons]
    obtain ⟨x, hx, _⟩ := relStep_spec parentNamespaced relRes cache pns m r
    rw [hx]
    cases x with
    | error e => exact ⟨_, rfl, fun _ _ _ => ⟨e, rfl⟩⟩
    | ok m' =>
      obtain ⟨y, hy, hbad⟩ := ih m'
      refine ⟨y, hy, fun orule hmem hfail => ?_⟩
      rcases List.mem_cons.1 hmem with rfl | hmem
      · obtain ⟨msg, hmsg⟩ := hfail m
        rw [hmsg] at hx
        cases hx
      · exact hbad orule hmem hfail

/-- with a cached answer `GetRelatedObjects` sends nothing at all; without, every request it sends is
    the customize hook -/
theorem C15_requests (enabled parentNamespaced : Bool) (relRes : List ChildRes) (cache : Cache) (parent : J) (cached : CustCache) :
    Prog.AllCalls (fun r => cached = none ∧ ∃ body, r = .hook "customize" body)
      (getRelatedObjects enabled parentNamespaced relRes cache parent cached) := by
  cases enabled with
  | false => exact .ret _
  | true =>
    rw [getRelatedObjects_eq]
    refine PE.allCalls_bind ?_ fun bc => PE.allCalls_bind_ofExcept _ _ fun rules _ => ?_
    · cases cached with
      | some b => exact .ret _
      | none =>
        unfold customizeResponse
        simp only [bind, pure]
        apply PE.allCalls_bind (PE.allCalls_lift_request ⟨trivial, _, rfl⟩)
        intro x
        cases x <;> exact .ret _
    · obtain ⟨x, hx, _⟩ := foldlM_relStep parentNamespaced relRes cache (getNamespace parent) rules []
      rw [hx]
      cases x <;> exact .ret _


/-- **C15**: on every successful branch, the answer of the customize hook (the one now cached) decodes
    to rules such that every related object listed was selected through one of them from the informer
    of that rule's resource - and therefore the trigger predicate `matchesRelatedRule` of that rule
    accepts it (for informer objects carrying the rule's apiVersion and kind, and - for a namespaced
    parent - lying in the parent's namespace, which is what `Convert` lets through) -/
theorem C15_listed_triggers (parentNamespaced : Bool) (relRes : List ChildRes) (cache : Cache) (parent : J) (cached : CustCache) :
    PE.AllOk (fun (r : ObjMap × CustCache) => ∃ body rules, r.2 = some body ∧ decodeCustomizeResp body = .ok rules ∧
        ∀ o ∈ r.1.list, ∃ rule res, some rule ∈ rules ∧ findRes relRes rule = some res ∧ o ∈ relPool cache res ∧
          Selected parentNamespaced (getNamespace parent) (relPool cache res) rule o ∧
          (getAPIVersion o = rule.apiVersion ∧ getKind o = res.kind →
            (parentNamespaced = true → getNamespace o = getNamespace parent) →
            matchesRelatedRule parentNamespaced parent o rule res.kind = .ok true))
      (getRelatedObjects true parentNamespaced relRes cache parent cached) := by
  rw [getRelatedObjects_eq]
  apply PE.AllOk.bind (C15_once_per_generation_stored parent cached)
  rintro ⟨body, c'⟩ ⟨hc, _⟩
  simp only [] at hc ⊢
  apply PE.AllOk.bind (Q := fun rules => decodeCustomizeResp body = .ok rules) (PE.AllOk.ofExcept (fun _ h => h))
  intro rules hrules
  have hfold := PE.AllOk.foldlM_prefix
    (Inv := fun (pre : List (Option RelRule)) (m : ObjMap) =>
      ∀ o ∈ m.list, ∃ rule res, some rule ∈ pre ∧ findRes relRes rule = some res ∧
        Selected parentNamespaced (getNamespace parent) (relPool cache res) rule o)
    (relStep parentNamespaced relRes cache (getNamespace parent)) ?_ rules [] [] (by simp [ObjMap.list])
  · apply PE.AllOk.bind hfold
    intro m hm
    apply PE.AllOk.pure
    refine ⟨body, rules, hc, hrules, ?_⟩
    intro o ho
    obtain ⟨rule, res, hr, hres, hsel⟩ := hm o ho
    refine ⟨rule, res, by simpa using hr, hres, mem_pool_of_selected hsel, hsel, ?_⟩
    intro hgvk hns
    exact C15_selected_triggers parentNamespaced parent o rule res.kind _ hsel hgvk hns
  · intro pre orule m hinv
    obtain ⟨x, hx, hsp⟩ := relStep_spec parentNamespaced relRes cache (getNamespace parent) m orule
    rw [hx]
    refine .ret _ fun m' hm' o ho => ?_
    rcases hsp m' hm' o ho with h | ⟨rule, res, rfl, hres, hsel⟩
    · obtain ⟨rule, res, h1, h2, h3⟩ := hinv o h
      exact ⟨rule, res, List.mem_append_left _ h1, h2, h3⟩
    · exact ⟨rule, res, by simp, hres, hsel⟩

/-- a rule with both a label selector and namespace / names fails the step (and the sync) -/
theorem C15_invalid_is_error (parentNamespaced : Bool) (relRes : List ChildRes) (cache : Cache) (pns : String)
    (m : ObjMap) (rule : RelRule) (h : selectionType rule = .invalid) :
    ∃ msg, relStep parentNamespaced relRes cache pns m (some rule) = PE.fail msg := by
  unfold relStep
  simp only []
  cases findRes relRes rule with
  | none => exact ⟨_, rfl⟩
  | some res => simp only [h]; exact ⟨_, rfl⟩

/-- a namespaced parent may not name another namespace -/
theorem C15_foreign_namespace_error (relRes : List ChildRes) (cache : Cache) (pns : String)
    (m : ObjMap) (rule : RelRule) (h1 : rule.ns ≠ "") (h2 : rule.ns ≠ pns) :
    ∃ msg, relStep true relRes cache pns m (some rule) = PE.fail msg := by
  unfold relStep
  simp only []
  cases findRes relRes rule with
  | none => exact ⟨_, rfl⟩
  | some res =>
    simp only []
    cases hty : selectionType rule with
    | invalid => exact ⟨_, rfl⟩
    | byLabels => exact absurd ((C15_selection_type_byLabels rule).1 hty).1 h1
    | byNames =>
      have : (true && rule.ns != "" && pns != rule.ns) = true := by
        have h3 : ¬ pns = rule.ns := fun e => h2 e.symm
        simp [h1, h3]
      simp only []
      rw [if_pos this]
      exact ⟨_, rfl⟩

/-- an unknown resource is an error as well -/
theorem C15_unknown_resource_error (parentNamespaced : Bool) (relRes : List ChildRes) (cache : Cache) (pns : String)
    (m : ObjMap) (rule : RelRule) (h : findRes relRes rule = none) :
    relStep parentNamespaced relRes cache pns m (some rule) = PE.fail "discovery: can't find resource" := by
  unfold relStep
  simp only [h]

/-- one failing rule fails the whole of `GetRelatedObjects`, wherever it stands in the list and whatever the
    other rules select (stated with the answer cached: the program is then a single leaf) -/
theorem C15_bad_rule_fails (parentNamespaced : Bool) (relRes : List ChildRes) (cache : Cache) (parent body : J)
    (rules : List (Option RelRule)) (orule : Option RelRule)
    (hdec : decodeCustomizeResp body = .ok rules) (hmem : orule ∈ rules)
    (hbad : ∀ m, ∃ msg, relStep parentNamespaced relRes cache (getNamespace parent) m orule = PE.fail msg) :
    ∃ e, getRelatedObjects true parentNamespaced relRes cache parent (some body) = Prog.ret (.error e) := by
  obtain ⟨x, hx, hfail⟩ := foldlM_relStep parentNamespaced relRes cache (getNamespace parent) rules []
  obtain ⟨e, rfl⟩ := hfail orule hmem hbad
  refine ⟨e, ?_⟩
  rw [getRelatedObjects_eq, C15_once_per_generation_cached]
  simp only [PE.ofExcept, PE.pure, PE.bind, Prog.bind, hdec, hx]
  rfl


namespace Ex
def res0 : ChildRes := { apiVersion := "v1", resource := "secrets", kind := "Secret", namespaced := true, hasStatus := false, method := none }
def secret (ns name : String) (labels : KVs) : J :=
  .obj [("apiVersion", .str "v1"), ("kind", .str "Secret"), ("metadata", .obj [("name", .str name), ("namespace", .str ns), ("labels", .obj labels)])]
def sA : J := secret "ns" "a" [("app", .str "x")]
def sB : J := secret "ns" "b" []
def sC : J := secret "other" "a" [("app", .str "x")]
def cache0 : Cache := { parents := [], children := [], related := [("secrets", [sA, sB, sC])], revisions := [] }
def parent0 : J := .obj [("metadata", .obj [("name", .str "p"), ("namespace", .str "ns"), ("uid", .str "u")])]
def ruleNames : RelRule := { apiVersion := "v1", resource := "secrets", labelSelector := none, ns := "ns", names := ["a"] }
def ruleLabels : RelRule := { apiVersion := "v1", resource := "secrets", labelSelector := some { matchLabels := [("app", "x")] }, ns := "", names := [] }
def ruleInvalid : RelRule := { ruleLabels with names := ["a"] }
def ruleForeign : RelRule := { ruleNames with ns := "other" }
def bodyNames : J := .obj [("relatedResources", .arr [.obj [("apiVersion", .str "v1"), ("resource", .str "secrets"), ("namespace", .str "ns"), ("names", .arr [.str "a"])]])]

example : selNames (relPool cache0 res0) ruleNames = [sA] := by rfl
example : selLabels true "ns" (relPool cache0 res0) (.reqs [.isIn "app" ["x"]]) = [sA] := by rfl
example : relSelector ruleLabels = .ok (.reqs [.isIn "app" ["x"]]) := by rfl

/-- by names, namespaced parent -/
example : matchesRelatedRule true parent0 sA ruleNames "Secret" = .ok true :=
  C15_byNames_triggers true parent0 sA ruleNames "Secret" (relPool cache0 res0) (by decide +kernel) (by decide +kernel) ⟨by rfl, by rfl⟩
    (fun _ => by rfl) (by rw [show selNames (relPool cache0 res0) ruleNames = [sA] from by rfl]; simp)

/-- by labels -/
example : matchesRelatedRule true parent0 sA ruleLabels "Secret" = .ok true :=
  C15_byLabels_triggers true parent0 sA ruleLabels "Secret" (.reqs [.isIn "app" ["x"]]) (by decide +kernel) (by rfl) ⟨by rfl, by rfl⟩ (by rfl)

/-- the side condition on the namespace is needed for a namespaced parent and a rule without namespace:
    the selection by names lists `other/a` too (it is `Convert` that drops it), the trigger predicate refuses it -/
example : sC ∈ selNames (relPool cache0 res0) { ruleNames with ns := "" } ∧
    matchesRelatedRule true parent0 sC { ruleNames with ns := "" } "Secret" = .ok false := by
  refine ⟨?_, by rfl⟩
  rw [show selNames (relPool cache0 res0) { ruleNames with ns := "" } = [sA, sC] from by rfl]; simp

example : selectionType ruleInvalid = .invalid := by decide +kernel
example : ∃ msg, relStep true [res0] cache0 "ns" [] (some ruleInvalid) = PE.fail msg :=
  C15_invalid_is_error true [res0] cache0 "ns" [] ruleInvalid (by decide +kernel)
example : ∃ msg, relStep true [res0] cache0 "ns" [] (some ruleForeign) = PE.fail msg :=
  C15_foreign_namespace_error [res0] cache0 "ns" [] ruleForeign (by decide +kernel) (by decide +kernel)

def bodyInvalid : J := .obj [("relatedResources", .arr [.null,
  .obj [("apiVersion", .str "v1"), ("resource", .str "secrets"), ("names", .arr [.str "a"])],
  .obj [("apiVersion", .str "v1"), ("resource", .str "secrets"), ("names", .arr [.str "a"]), ("labelSelector", .obj [])]])]
/-- one invalid rule (the last of three) fails the whole listing -/
example : ∃ e, getRelatedObjects true true [res0] cache0 parent0 (some bodyInvalid) = Prog.ret (.error e) := by
  refine C15_bad_rule_fails true [res0] cache0 parent0 bodyInvalid
    [none, some { ruleNames with ns := "" }, some { apiVersion := "v1", resource := "secrets", labelSelector := some {}, ns := "", names := ["a"] }]
    (some { apiVersion := "v1", resource := "secrets", labelSelector := some {}, ns := "", names := ["a"] }) (by rfl) (by simp) ?_
  intro m
  exact C15_invalid_is_error _ _ _ _ m _ (by decide +kernel)

example : customizeResponse parent0 (some bodyNames) = PE.pure (bodyNames, some bodyNames) := rfl

/-- a successful run with a cached answer that lists `sA` (so `C15_listed_triggers` is not vacuous) -/
example : ∃ m, getRelatedObjects true true [res0] cache0 parent0 (some bodyNames) = PE.pure (m, some bodyNames) ∧ sA ∈ m.list := by
  refine ⟨ObjMap.insertUniform (ObjMap.initGroup [] (resGVK res0)) sA, by rfl, ?_⟩
  apply mem_list_of_at (k := gvkOf sA) (n := qualifiedName sA)
  unfold ObjMap.insertUniform
  rw [at_put]; simp
end Ex

end Mc.C15
